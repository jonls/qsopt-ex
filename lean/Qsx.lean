import Qsx.Generated.Tables
import Qsx.Model.Basic
import Qsx.Model.BasisFile
import Qsx.Model.Cap
import Qsx.Model.Cert
import Qsx.Model.Driver
import Qsx.Model.LP
import Qsx.Model.LinAlg
import Qsx.Model.Log
import Qsx.Model.LpBounds
import Qsx.Model.LpLex
import Qsx.Model.MpsLex
import Qsx.Model.Multi
import Qsx.Model.Num
import Qsx.Model.Ratio
import Qsx.Model.Round
import Qsx.Model.Sem
import Qsx.Model.Session
import Qsx.Model.SolFile
import Qsx.Model.Spec
import Qsx.Model.Store
import Qsx.Model.StoreAcct
import Qsx.Model.Symtab
import Qsx.Model.Verdict
import Qsx.Model.Wire
import Qsx.Model.Xform
import Qsx.Proofs.ApiSound
import Qsx.Proofs.BasisFileRT
import Qsx.Proofs.CapSound
import Qsx.Proofs.CertSound
import Qsx.Proofs.CopySound
import Qsx.Proofs.DriverSound
import Qsx.Proofs.FarkasSound
import Qsx.Proofs.LexPrim
import Qsx.Proofs.LinAlgSound
import Qsx.Proofs.LpBoundsRT
import Qsx.Proofs.LpLexSafe
import Qsx.Proofs.MpsLexSafe
import Qsx.Proofs.NumScan
import Qsx.Proofs.OptTestSound
import Qsx.Proofs.Post
import Qsx.Proofs.RatioSound
import Qsx.Proofs.SolFileRT
import Qsx.Proofs.SpecSound
import Qsx.Proofs.StoreAcctSound
import Qsx.Proofs.Sums
import Qsx.Proofs.SymtabIndex
import Qsx.Proofs.SymtabPool
import Qsx.Proofs.SymtabSound
import Qsx.Proofs.ToInternal
import Qsx.Proofs.VerdictSound
import Qsx.Proofs.XformInst
import Qsx.Proofs.XformSound
import Qsx.Props.C01
import Qsx.Props.C02
import Qsx.Props.C03
import Qsx.Props.C04
import Qsx.Props.C05
import Qsx.Props.C06
import Qsx.Props.C07
import Qsx.Props.C08
import Qsx.Props.C09
import Qsx.Props.C10
import Qsx.Props.C11
import Qsx.Props.C12
import Qsx.Props.C13
import Qsx.Props.C14
import Qsx.Props.C15
import Qsx.Props.C16
import Qsx.Props.C17
import Qsx.Props.C19
import Qsx.Props.C20
