/-
Safety of the MPS lexer model (C11, `Qsx.MpsLex`, read_mps.c), in the style of `Proofs/LpLexSafe`; here
`Inv` also says that the cursor is not null and the string is terminated.
-/
import Qsx.Model.MpsLex
import Qsx.Proofs.LexPrim
import Qsx.Proofs.NumScan

set_option backward.split false

namespace Qsx.MpsLex
open Qsx.LpLex (NUL rd isBlank isSpace scanWhile sscanfS prefixCI cstr Bnd rd_post nul_ne scanWhile_post isBlank_nul
  sscanfS_len prefixCI_len drop_fits)

theorem rdp_post {s : St} (h : Inv s) : Post (rdp s 0) fun c => c ≠ NUL → s.p < s.line.length := by
  unfold rdp
  rw [h.1, h.2.1]
  exact rd_post h.2.2

theorem rest_eq {s : St} (h : Inv s) : rest s = some (s.line.drop s.p) := by
  unfold rest
  rw [h.1, h.2.1, if_pos h.2.2]
  rfl

/-- `mps_skip_comment` only moves the cursor forward, on the same line (the answer `_com` plays no part; it is
an argument so that the predicate has the shape `Post.bind₂` works with) -/
def Skipped (s s1 : St) (_com : Bool) : Prop := Inv s1 ∧ s.p ≤ s1.p ∧ s1.line = s.line

theorem skipComment_post (s : St) (h : Inv s) : Post (skipComment s) fun x => Skipped s x.1 x.2 := by
  unfold skipComment
  rw [if_neg (Bool.eq_false_iff.mp h.1), if_neg (Bool.eq_false_iff.mp h.2.1)]
  refine (scanWhile_post _ isBlank_nul 0 h.2.2).bind fun p hp => ?_
  have i : Inv { s with p := p } := ⟨h.1, h.2.1, hp.2⟩
  exact (rdp_post i).bind fun c _ => .pure₂ ⟨i, hp.1, rfl⟩

theorem nextField_post (s : St) (h : Inv s) :
    Post (nextField s) fun x => Inv x.1 ∧ (x.2 = 0 → s.p < x.1.p ∧ x.1.line = s.line) := by
  unfold nextField
  refine (skipComment_post { s with field := [] } h).bind₂ fun s1 com ⟨i1, m1, l1⟩ => ?_
  dsimp only at m1 l1 ⊢
  split
  · exact .pure ⟨i1, nofun⟩
  · rw [rest_eq i1]
    dsimp only [bind, Option.bind]
    split
    · rename_i f hf
      have := (sscanfS_len hf).1
      have i2 : Inv { s1 with field := f, p := s1.p + f.length } := ⟨i1.1, i1.2.1, drop_fits i1.2.2 (sscanfS_len hf).2⟩
      refine (rdp_post i2).bind fun c hc => .pure ⟨?_, fun _ => ⟨?_, ?_⟩⟩
      · split
        · exact ⟨i1.1, i1.2.1, hc (by simpa using ‹(c != NUL) = true›)⟩
        · exact i2
      · split <;> dsimp only <;> omega
      · split <;> exact l1
    · exact .pure ⟨i1, nofun⟩

theorem getDouble_post (s : St) (peek : Bool) (h : Inv s) : Post (getDouble s peek) fun x => Inv x.1 := by
  unfold getDouble
  refine (skipComment_post s h).bind₂ fun s1 com ⟨i1, _, _⟩ => ?_
  dsimp only
  split
  · exact .pure i1
  · rw [rest_eq i1]
    dsimp only [bind, Option.bind]
    have hle := Num.scan_consumes_le (s1.line.drop s1.p)
    split
    · rename_i n q hs
      rw [hs] at hle
      split
      · refine .pure ?_
        split
        · exact i1
        · exact ⟨i1.1, i1.2.1, drop_fits i1.2.2 hle⟩
      · exact .pure i1
    · exact .pure i1

theorem nextCoef_post (s : St) (h : Inv s) : Post (nextCoef s) fun x => Inv x.1 := by
  unfold nextCoef
  refine (skipComment_post s h).bind₂ fun s1 com ⟨i1, _, _⟩ => ?_
  dsimp only
  split
  · exact .pure i1
  · exact (getDouble_post s1 false i1).bind fun x i2 => .pure i2

theorem nextFieldIsNumber_post (s : St) (h : Inv s) : Post (nextFieldIsNumber s) fun x => Inv x.1 := by
  unfold nextFieldIsNumber
  refine (skipComment_post s h).bind₂ fun s1 com ⟨i1, _, _⟩ => ?_
  dsimp only
  split
  · exact .pure i1
  · exact (getDouble_post s1 true i1).bind fun x i2 => .pure i2

theorem checkEndOfLine_post (s : St) (h : Inv s) : Post (checkEndOfLine s) fun x => Inv x.1 := by
  unfold checkEndOfLine
  refine (skipComment_post s h).bind₂ fun s1 com ⟨i1, _, _⟩ => ?_
  dsimp only
  split
  · exact .pure i1
  · exact (rdp_post i1).bind fun c _ => .pure i1

theorem boundInf_post (s : St) (sg : Int) (len : Nat) (h : Inv s) (hb : s.p + len ≤ s.line.length) :
    Post (boundInf s sg len) fun x => Inv x.1 := by
  unfold boundInf
  refine (skipComment_post { s with p := s.p + len } ⟨h.1, h.2.1, hb⟩).bind₂ fun s3 com ⟨i3, _, _⟩ => ?_
  refine (rdp_post i3).bind fun c _ => ?_
  split
  · exact .pure h
  · exact .pure i3

theorem signLen_le {b : List Char} {i : Nat} {c : Char} (hc : c ≠ NUL → i < b.length) (hi : i ≤ b.length) :
    i + (signLen c).2 ≤ b.length := by
  unfold signLen
  split
  · exact hc (nul_ne ‹_›)
  · split
    · exact hc (nul_ne ‹_›)
    · exact hi

theorem infLen_le (r : List Char) : infLen r ≤ r.length := by
  unfold infLen
  split
  · exact prefixCI_len ‹_›
  · split
    · exact prefixCI_len ‹_›
    · exact Nat.zero_le _

theorem nextBound_post (s : St) (h : Inv s) : Post (nextBound s) fun x => Inv x.1 := by
  unfold nextBound
  refine (skipComment_post s h).bind₂ fun s1 com ⟨i1, _, _⟩ => ?_
  dsimp only
  split
  · exact .pure i1
  · refine (rdp_post i1).bind fun c hc => ?_
    rw [rest_eq i1]
    dsimp only [bind, Option.bind]
    split
    · have h1 := signLen_le hc i1.2.2
      have h2 := infLen_le ((s1.line.drop s1.p).drop (signLen c).2)
      rw [List.length_drop, List.length_drop] at h2
      exact boundInf_post s1 _ _ i1 (by omega)
    · exact (getDouble_post s1 false i1).bind fun x i2 => .pure i2

/-- `next_line` always answers; when it reports a line (0) the cursor points into that line's string -/
theorem nextLine_go_post : ∀ (file : List (List Char)) (s : St),
    Post (nextLine.go file s) fun x => x.2 = 0 → Inv x.1
  | [], s => .pure nofun
  | raw :: more, s => by
    unfold nextLine.go
    refine (rd_post (Nat.zero_le (cstr raw).length)).bind fun c0 _ => ?_
    split
    · split
      · exact nextLine_go_post more _
      · split
        · rename_i k hk
          refine (scanWhile_post _ isBlank_nul 0 (sscanfS_len hk).2).bind fun p hp => ?_
          split
          · exact .pure fun _ => ⟨rfl, rfl, drop_fits hp.2 (sscanfS_len ‹_›).2⟩
          · exact .pure fun _ => ⟨rfl, rfl, hp.2⟩
        · exact .pure nofun
    · refine (scanWhile_post _ isBlank_nul 0 (Nat.zero_le _)).bind fun p hp => ?_
      split
      · exact .pure fun _ => ⟨rfl, rfl, drop_fits hp.2 (sscanfS_len ‹_›).2⟩
      · exact nextLine_go_post more _

theorem nextLine_post (s : St) : Post (nextLine s) fun x => x.2 = 0 → Inv x.1 :=
  nextLine_go_post s.file _

/-- `set_end_of_line` strictly inside the string keeps a terminated string -/
theorem setEndOfLine_inside (s : St) (h : Inv s) (hp : s.p < s.line.length) : Post (setEndOfLine s) Inv := by
  unfold setEndOfLine
  rw [if_neg (Bool.eq_false_iff.mp h.1), if_pos hp]
  exact .pure ⟨h.1, h.2.1, by simpa using h.2.2⟩

/-- `set_end_of_line` on the terminator itself leaves an unterminated string (the model records it); the one call that
follows in mps.c, check_end_of_line, still only looks at the character just written -/
theorem setEndOfLine_at_terminator (s : St) (h : Inv s) (hp : s.p = s.line.length) :
    ∃ s1, setEndOfLine s = some s1 ∧ s1.unterm = true ∧ ∃ s2, checkEndOfLine s1 = some (s2, false) := by
  rcases s with ⟨line, p0, pnull, unterm, ln, fn, key, field, nt, file⟩
  obtain ⟨h1, h2, h3⟩ := h
  simp only at h1 h2 h3 hp
  subst h1 h2 hp
  simp only [setEndOfLine, Nat.lt_irrefl, Bool.false_eq_true, if_false, Bool.not_false, Bool.and_true, decide_true, if_true]
  refine ⟨_, rfl, rfl, ?_⟩
  have hsc : scanWhile (fun c _ => isBlank c) (line ++ ['\n']) line.length 0 = some line.length := by
    simp [scanWhile, LpLex.scanFrom, isBlank]
  have hrd : rd (line ++ ['\n']) line.length = some '\n' := by simp [rd]
  simp [checkEndOfLine, skipComment, rdp, hsc, hrd, endLine]

def Safe {α : Type} (x : Option (St × α)) : Prop := ∃ s r, x = some (s, r) ∧ Inv s

theorem safe_of_inv {α : Type} {x : Option (St × α)} (h : Post x fun a => Inv a.1) : Safe x :=
  h.exists₂ (P := fun s _ => Inv s)

/-- `next_field` delivers a field only from such a state (on an unterminated string `rest` does not answer): the
progress statement needs no hypothesis on the state -/
theorem inv_of_nextField {s s' : St} (h : nextField s = some (s', 0)) : Inv s := by
  unfold nextField at h
  obtain ⟨⟨s1, com⟩, h1, h2⟩ := Option.bind_eq_some_iff.mp h
  dsimp only at h1 h2
  -- what `mps_skip_comment` needs to answer, and that it leaves `unterm` alone
  have shape : s.pnull = false ∧ s.p ≤ s.line.length ∧ s1.unterm = s.unterm := by
    unfold skipComment at h1
    cases hp : s.pnull
    · simp only [hp, Bool.false_eq_true, if_false] at h1
      have hl : s.p ≤ s.line.length := by
        by_contra hn
        simp [scanWhile, hn] at h1
      refine ⟨rfl, hl, ?_⟩
      split at h1 <;>
      · obtain ⟨p, -, hr⟩ := Option.bind_eq_some_iff.mp h1
        obtain ⟨c, -, hr⟩ := Option.bind_eq_some_iff.mp hr
        cases hr
        rfl
    · simp [hp] at h1
  split at h2
  · cases h2
  · obtain ⟨r, hr, -⟩ := Option.bind_eq_some_iff.mp h2
    unfold rest at hr
    split at hr
    · cases hr
    · rename_i hu
      simp only [Bool.or_eq_true, not_or, Bool.not_eq_true] at hu
      exact ⟨shape.1, shape.2.2 ▸ hu.2, shape.2.1⟩

end Qsx.MpsLex
