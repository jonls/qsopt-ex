import Qsx.Model.StoreAcct

namespace Qsx.StoreAcct

/-- the actions take `delta + atEndCount` slots in all -/
theorem run_safe (acts : List Act) (free : Int) (h : (delta acts : Int) + atEndCount acts ≤ free) :
    ∃ f, run free acts = some f ∧ 0 ≤ f := by
  induction acts generalizing free with
  | nil => exact ⟨free, rfl, by simp only [delta, atEndCount] at h; omega⟩
  | cons a as ih =>
    rcases a with _ | (_ | _) | c <;> simp only [delta, atEndCount, run] at h ⊢
    · exact ih free h
    · exact ih free h
    · rw [if_pos (by omega)]
      exact ih _ (by omega)
    · rw [if_pos (by omega)]
      exact ih _ (by omega)

end Qsx.StoreAcct
