/-
The string pool of the symbol table (`add_string` / `grow_namelist`, symtab.c:571-635): the copy
`strcpy (namelist + strsize, s)` of `l = strlen s + 1` bytes stays inside the `strspace` bytes of
the pool, for every state with a non-empty pool whose live strings fit below `strsize`.
-/
import Qsx.Proofs.SymtabSound

set_option backward.split false

namespace Qsx.Symtab

/-- what the pool maintenance relies on -/
structure PoolOK (t : T) : Prop where
  pos : 0 < t.strspace
  used : poolUsed t.ents ≤ t.strsize

theorem growPool_ents (t : T) : (growPool t).ents = t.ents := by
  obtain ⟨_, _, _, h⟩ := growPool_eq t
  rw [h]

/-- with enough rounds the loop ends with room for `l` more bytes.  A round of `grow_namelist`
either doubles the pool or compacts it, and it compacts only when something was freed, so that the
next round, if there is one, doubles: "enough" counts two rounds per doubling, one less when
nothing is freed. -/
theorem addStringLoop_fits (l : Nat) : ∀ (fuel : Nat) (t : T), PoolOK t →
    2 * (t.strsize + l) + 2 ≤ fuel + 2 * t.strspace + (if t.freed = 0 then 1 else 0) →
    (addStringLoop fuel t l).strsize + l ≤ (addStringLoop fuel t l).strspace ∧
      PoolOK (addStringLoop fuel t l) ∧ (addStringLoop fuel t l).ents = t.ents := by
  intro fuel
  induction fuel with
  | zero =>
    intro t h hf
    exact ⟨by rw [addStringLoop]; split at hf <;> omega, h, rfl⟩
  | succ f ih =>
    intro t h hf
    have hpos := h.pos
    have hused := h.used
    rw [addStringLoop]
    split
    · rw [growPool]
      split
      · -- compacted: something was freed, as the pool is not empty
        refine ih _ ⟨hpos, Nat.le_refl _⟩ ?_
        rw [if_neg (by omega)] at hf
        simp only [if_true]
        omega
      · -- doubled
        refine ih _ ⟨by show 0 < t.strspace * 2; omega, hused⟩ ?_
        show 2 * (t.strsize + l) + 2 ≤ f + 2 * (t.strspace * 2) + (if t.freed = 0 then 1 else 0)
        omega
    · exact ⟨by omega, h, rfl⟩

/-- the pool bytes a name takes -/
def wt : Option Name → Nat
  | some s => s.length + 1
  | none => 0

def wsum (l : List (Option Name)) : Nat := (l.map wt).sum

theorem poolUsed_eq (ents : Array Ent) : poolUsed ents = wsum (ents.toList.map (·.name)) := by
  have key (l : List Ent) (a : Nat) :
      l.foldl (fun a e => match e.name with | some s => a + s.length + 1 | none => a) a =
        a + wsum (l.map (·.name)) := by
    induction l generalizing a with
    | nil => rfl
    | cons e l ih =>
      rw [List.foldl_cons, ih, List.map_cons, wsum, wsum, List.map_cons, List.sum_cons]
      cases e.name <;> simp only [wt] <;> omega
  rw [poolUsed, ← Array.foldl_toList]
  exact (key _ 0).trans (Nat.zero_add _)

theorem wsum_append (a b : List (Option Name)) : wsum (a ++ b) = wsum a + wsum b := by
  simp [wsum]

theorem wsum_set_le (l : List (Option Name)) (d : Nat) (x : Option Name) :
    wsum (l.set d x) ≤ wsum l + wt x := by
  induction l generalizing d with
  | nil => simp [wsum]
  | cons a l ih =>
    cases d with
    | zero =>
      simp [wsum]
      omega
    | succ d =>
      have := ih d
      simp only [List.set_cons_succ, wsum, List.map_cons, List.sum_cons] at this ⊢
      omega

/-- the last entry's bytes are counted once before and at most once after -/
theorem wsum_swapRemove_le (l : List (Option Name)) (d : Nat) (hd : d < l.length) :
    wsum (swapRemove l d) ≤ wsum l := by
  obtain ⟨l', x, rfl⟩ : ∃ l' x, l = l' ++ [x] :=
    ⟨_, _, (List.dropLast_concat_getLast (List.ne_nil_of_length_pos (by omega))).symm⟩
  rw [swapRemove, List.length_append, List.length_singleton, Nat.add_sub_cancel, List.dropLast_concat,
    List.getLast?_concat, wsum_append]
  split
  · omega
  · have hd' : d < l'.length := by simp at hd; omega
    simp only
    rw [List.set_append_left _ _ hd', List.dropLast_concat]
    exact wsum_set_le l' d x

theorem poolUsed_push (ents : Array Ent) (v : Ent) : poolUsed (ents.push v) = poolUsed ents + wt v.name := by
  simp [poolUsed_eq, wsum]

theorem poolUsed_modify_le (ents : Array Ent) (i : Nat) (nm : Option Name) :
    poolUsed (ents.modify i (fun v => { v with name := nm })) ≤ poolUsed ents + wt nm := by
  rw [poolUsed_eq, poolUsed_eq, abs_modify_name]
  exact wsum_set_le _ i nm

/-- the pool invariant: a non-empty pool, the live strings below `strsize`, `strsize` inside the pool -/
structure PoolInv (t : T) : Prop where
  ok : PoolOK t
  le : t.strsize ≤ t.strspace

theorem create_poolInv (n : Nat) : PoolInv (create n) := by
  refine ⟨⟨?_, Nat.zero_le _⟩, Nat.zero_le _⟩
  show 0 < (if (n == 0) = true then 1000 else n) * 5
  split
  · omega
  · have : n ≠ 0 := by simpa using ‹¬(n == 0) = true›
    omega

theorem grow_pool (t : T) : (grow t).strsize = t.strsize ∧ (grow t).strspace = t.strspace ∧ (grow t).ents = t.ents :=
  ⟨rfl, rfl, rfl⟩

/-- the invariant looks at the pool counters and the names only, and fewer names do not hurt -/
theorem PoolInv.mono {t t' : T} (h : PoolInv t) (h1 : t'.strsize = t.strsize) (h2 : t'.strspace = t.strspace)
    (h3 : poolUsed t'.ents ≤ poolUsed t.ents) : PoolInv t' :=
  ⟨⟨h2 ▸ h.ok.pos, h1 ▸ Nat.le_trans h3 h.ok.used⟩, h1 ▸ h2 ▸ h.le⟩

/-- `add_string` followed by storing the new name in some entry (a fresh one or entry `i`) -/
theorem addString_poolInv {t : T} (h : PoolOK t) (s : Name) {t' : T}
    (hents : poolUsed t'.ents ≤ poolUsed t.ents + (s.length + 1))
    (hs : t'.strsize = (addString t s).strsize) (hp : t'.strspace = (addString t s).strspace) :
    PoolInv t' := by
  obtain ⟨hfit, ⟨hpos, hused⟩, he⟩ :=
    addStringLoop_fits (s.length + 1) (2 * (t.strsize + (s.length + 1)) + 64) t h (by omega)
  rw [he] at hused
  rw [addString] at hs hp
  exact ⟨⟨hp ▸ hpos, by rw [hs]; show _ ≤ _ + (s.length + 1); omega⟩, by rw [hs, hp]; exact hfit⟩

theorem register_poolInv {t : T} (h : PoolInv t) (s : Option Name) (idx : Int) : PoolInv (register t s idx).1 := by
  unfold register
  have h0 : PoolInv (if idx < 0 then { t with indexOk := false } else t) := by
    split
    · exact h.mono rfl rfl (Nat.le_refl _)
    · exact h
  generalize (if idx < 0 then { t with indexOk := false } else t) = t0 at h0
  cases s with
  | none =>
    obtain ⟨_, _, _, hg⟩ := growWhile_eq 64 t0
    simp only
    rw [hg]
    -- (an unnamed entry weighs `wt none`, which is `0` by `rfl`; the same below for a name taken off)
    exact h0.mono rfl rfl (Nat.le_of_eq (poolUsed_push ..))
  | some n =>
    simp only
    cases lookup t0 n with
    | some k => exact h0
    | none =>
      obtain ⟨_, _, _, hg⟩ := growWhile_eq 64 (addString t0 n)
      rw [hg]
      exact addString_poolInv h0.ok n (by rw [← addString_ents t0 n]; exact (Nat.le_of_eq (poolUsed_push ..))) rfl rfl

theorem delete_poolInv {t : T} (h : PoolInv t) (s : Name) : PoolInv (delete t s).1 := by
  rw [delete_eq]
  cases hl : lookup t s with
  | none => exact h
  | some d =>
    have hd := nameAt_lt (nameAt_of_lookup hl)
    refine h.mono rfl rfl ?_
    rw [poolUsed_eq, poolUsed_eq, abs_delEnts t.ents hd]
    exact wsum_swapRemove_le _ _ (by simpa using hd)

theorem rename_poolInv {t : T} (h : PoolInv t) (i : Nat) (nn : Option Name) : PoolInv (rename t i nn).1 := by
  rw [rename_eq]
  split
  · exact h
  cases nn.bind (lookup t) with
  | some k => exact h
  | none =>
    cases nn with
    | none => exact h.mono rfl rfl (poolUsed_modify_le ..)
    | some ns =>
      simp only
      refine addString_poolInv (s := ns) ?_ ?_ rfl rfl
      · exact ⟨h.ok.pos, h.ok.used⟩
      · rw [addString_ents]
        exact poolUsed_modify_le ..

end Qsx.Symtab
