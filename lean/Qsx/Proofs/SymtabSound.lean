/-
The symbol table model (`Qsx.Symtab`, symtab.c) refines a plain list of names.

`WF t` is the chain invariant: bucket `x` holds exactly the named entries whose name hashes to `x`,
and no two entries carry the same name.  Both halves speak of the entries only through the partial
function "entry number ↦ name", which is read off the list `abs t` (`names`).  So the invariant is
split into `Chains hs b f` (the buckets `b` are the hash partition of the graph of `f`) and
`NameInj f`, for an arbitrary `f`: each thing the code does to a chain changes `f` at one or two
entry numbers (`Function.update`), and every operation of the table is a sequence of such changes
together with an edit of the entry array whose names are the new `f`.  `Holds t l` (`abs t = l`,
with `Chains` and `NameInj` of `names l`; `WF t` is `Holds t (abs t)`) is what the operations are
specified by: `Holds t l → Holds (op t) (spec l)`.
-/
import Qsx.Model.Symtab
import Mathlib.Data.List.Basic

set_option backward.split false

namespace Qsx.Symtab

structure WF (t : T) : Prop where
  hpos : 0 < t.hashspace
  bsize : t.buckets.size = t.hashspace
  mem : ∀ x e, x < t.hashspace →
    (e ∈ t.buckets.getD x [] ↔ ∃ s, nameAt t e = some s ∧ hash s t.hashspace = x)
  uniq : ∀ e₁ e₂ s, nameAt t e₁ = some s → nameAt t e₂ = some s → e₁ = e₂

open Function

def names (l : List (Option Name)) (e : Nat) : Option Name := l[e]?.join

theorem nameAt_eq (t : T) : nameAt t = names (abs t) := by
  funext e
  simp only [nameAt, names, abs, List.getElem?_map, Array.getElem?_toList]
  cases t.ents[e]? <;> rfl

theorem abs_length (t : T) : (abs t).length = t.ents.size := by simp [abs]

theorem names_eq_some {l : List (Option Name)} {e : Nat} {s : Name} :
    names l e = some s ↔ l[e]? = some (some s) := Option.join_eq_some_iff

theorem names_of_le {l : List (Option Name)} {e : Nat} (h : l.length ≤ e) : names l e = none := by
  simp [names, h]

theorem names_ne_of_not_mem {l : List (Option Name)} {s : Name} (h : some s ∉ l) (e : Nat) :
    names l e ≠ some s := fun he => h (List.mem_of_getElem? (names_eq_some.mp he))

theorem names_append (l : List (Option Name)) (x : Option Name) :
    names (l ++ [x]) = update (names l) l.length x := by
  funext e
  rw [update_apply]
  unfold names
  rcases Nat.lt_trichotomy e l.length with h | h | h
  · rw [List.getElem?_append_left h, if_neg (by omega)]
  · subst h
    simp
  · rw [if_neg (by omega), List.getElem?_eq_none (by simp; omega), List.getElem?_eq_none (by omega)]

theorem names_set (l : List (Option Name)) {i : Nat} (x : Option Name) (hi : i < l.length) :
    names (l.set i x) = update (names l) i x := by
  funext e
  rw [update_apply]
  unfold names
  rw [List.getElem?_set, if_pos hi]
  split
  · rw [if_pos (by omega)]
    rfl
  · rw [if_neg (by omega)]

theorem names_dropLast (l : List (Option Name)) :
    names l.dropLast = update (names l) (l.length - 1) none := by
  funext e
  rw [update_apply]
  unfold names
  rw [List.getElem?_dropLast]
  split
  · rw [if_neg (by omega)]
  · split
    · rfl
    · rw [List.getElem?_eq_none (by omega)]

theorem hash_lt (s : Name) {n : Nat} (h : 0 < n) : hash s n < n := Nat.mod_lt _ h

/-- the buckets `b` are the partition, by hash value, of the graph of `f` -/
structure Chains (hs : Nat) (b : Array (List Nat)) (f : Nat → Option Name) : Prop where
  pos : 0 < hs
  size : b.size = hs
  mem : ∀ x e, x < hs → (e ∈ b.getD x [] ↔ ∃ s, f e = some s ∧ hash s hs = x)

def NameInj (f : Nat → Option Name) : Prop := ∀ e₁ e₂ s, f e₁ = some s → f e₂ = some s → e₁ = e₂

/-- table `t` represents the list of names `l` -/
structure Holds (t : T) (l : List (Option Name)) : Prop where
  eq : abs t = l
  chains : Chains t.hashspace t.buckets (names l)
  inj : NameInj (names l)

theorem WF.holds {t : T} (hw : WF t) : Holds t (abs t) :=
  ⟨rfl, nameAt_eq t ▸ ⟨hw.hpos, hw.bsize, hw.mem⟩, nameAt_eq t ▸ hw.uniq⟩

theorem Holds.wf {t : T} {l : List (Option Name)} (h : Holds t l) : WF t := by
  obtain ⟨rfl, c, i⟩ := h
  rw [← nameAt_eq] at c i
  exact ⟨c.pos, c.size, c.mem, i⟩

theorem Holds.length {t : T} {l : List (Option Name)} (h : Holds t l) : l.length = t.ents.size :=
  h.eq ▸ abs_length t

namespace Chains
variable {hs : Nat} {b : Array (List Nat)} {f : Nat → Option Name}

theorem getD_modify (h : Chains hs b f) (s : Name) (g : List Nat → List Nat) (x : Nat) :
    (b.modify (hash s hs) g).getD x [] = if hash s hs = x then g (b.getD x []) else b.getD x [] := by
  simp only [Array.getD_eq_getD_getElem?, Array.getElem?_modify]
  split
  · subst x
    simp [h.size, hash_lt s h.pos]
  · rfl

/-- `delete_from_list`: entry `e` leaves the chain of its name -/
theorem unlink (h : Chains hs b f) {e : Nat} {s : Name} (he : f e = some s) :
    Chains hs (b.modify (hash s hs) fun l => l.filter fun e' => e' != e) (update f e none) := by
  refine ⟨h.pos, Array.size_modify.trans h.size, fun x e' hx => ?_⟩
  rw [h.getD_modify, update_apply]
  split
  · rw [List.mem_filter, h.mem x e' hx]
    by_cases he' : e' = e <;> simp [he']
  · rw [h.mem x e' hx]
    by_cases he' : e' = e <;> simp [*]

theorem unlink? (h : Chains hs b f) (e : Nat) :
    Chains hs ((f e).elim b fun s => b.modify (hash s hs) fun l => l.filter fun e' => e' != e) (update f e none) := by
  cases he : f e with
  | none => rwa [update_eq_self_iff.mpr he.symm]
  | some s => exact h.unlink he

/-- entry `e`, unnamed so far, goes in front of the chain of `s`, as in `ILLsymboltab_register`,
`ILLsymboltab_rename` and `grow_symboltab` -/
theorem link (h : Chains hs b f) {e : Nat} (he : f e = none) (s : Name) :
    Chains hs (b.modify (hash s hs) fun l => e :: l) (update f e (some s)) := by
  refine ⟨h.pos, Array.size_modify.trans h.size, fun x e' hx => ?_⟩
  rw [h.getD_modify, update_apply]
  split
  · rw [List.mem_cons, h.mem x e' hx]
    by_cases he' : e' = e <;> simp [*]
  · rw [h.mem x e' hx]
    by_cases he' : e' = e <;> simp [*]

/-- `ILLsymboltab_delete` before it copies the last entry to `d`: what points to `last` in the chain
of its name `ls` is made to point to `d` (nothing is done when `last` is unnamed) -/
theorem renumber? (h : Chains hs b f) {last d : Nat} (hd : f d = none) :
    Chains hs ((f last).elim b fun ls => b.modify (hash ls hs) fun l => l.map fun e => if e == last then d else e)
      (update (update f last none) d (f last)) := by
  cases hl : f last with
  | none => rwa [(update_eq_self_iff (f := f) (a := last)).mpr hl.symm, update_eq_self_iff.mpr hd.symm]
  | some ls =>
    have hne : d ≠ last := fun h => by simp [← h, hd] at hl
    -- as far as membership goes, this is unlinking `last` and linking `d`
    have h1 := h.unlink hl
    have h2 := h1.link (e := d) (by rwa [update_of_ne hne]) ls
    refine ⟨h.pos, Array.size_modify.trans h.size, fun x e' hx => ?_⟩
    rw [← h2.mem x e' hx, Option.elim_some, h.getD_modify, h1.getD_modify, h.getD_modify]
    split
    · simp only [List.mem_map, List.mem_cons, List.mem_filter, beq_iff_eq, bne_iff_ne]
      constructor
      · rintro ⟨a, ha, rfl⟩
        by_cases ha' : a = last
        · exact .inl (if_pos ha')
        · rw [if_neg ha']
          exact .inr ⟨ha, ha'⟩
      · rintro (rfl | ⟨ha, ha'⟩)
        · exact ⟨last, (h.mem x last hx).mpr ⟨ls, hl, ‹_›⟩, if_pos rfl⟩
        · exact ⟨e', ha, if_neg ha'⟩
    · rfl

end Chains

theorem chains_nil {hs : Nat} (hpos : 0 < hs) : Chains hs (Array.replicate hs []) (names []) := by
  refine ⟨hpos, Array.size_replicate, fun x e hx => ?_⟩
  simp [names, hx]

/-- giving entry `e` a value that no other entry has, unless it is "no name", keeps names distinct -/
theorem NameInj.assign {f : Nat → Option Name} (h : NameInj f) (e : Nat) (x : Option Name)
    (hx : ∀ e', e' ≠ e → f e' = x → x = none) : NameInj (update f e x) := by
  intro e₁ e₂ s h₁ h₂
  rw [update_apply] at h₁ h₂
  split at h₁ <;> split at h₂
  · simp [*]
  · cases (hx e₂ ‹_› (h₂.trans h₁.symm)).symm.trans h₁
  · cases (hx e₁ ‹_› (h₁.trans h₂.symm)).symm.trans h₂
  · exact h _ _ _ h₁ h₂

theorem NameInj.move {f : Nat → Option Name} (h : NameInj f) (last d : Nat) :
    NameInj (update (update f last none) d (f last)) :=
  (h.assign last none fun _ _ _ => rfl).assign d _ fun e' _ he' => by
    rw [update_apply] at he'
    split at he'
    · exact he'.symm
    · cases hx : f last with
      | none => rfl
      | some ls => exact absurd (h _ _ _ (he'.trans hx) hx) ‹e' ≠ last›

theorem nameAt_iff {t : T} {e : Nat} {s : Name} : nameAt t e = some s ↔ (abs t)[e]? = some (some s) := by
  rw [nameAt_eq, names_eq_some]

theorem nameAt_lt {t : T} {e : Nat} {s : Name} (h : nameAt t e = some s) : e < t.ents.size :=
  abs_length t ▸ (List.getElem?_eq_some_iff.mp (nameAt_iff.mp h)).1

theorem nameAt_of_lookup {t : T} {s : Name} {e : Nat} (h : lookup t s = some e) : nameAt t e = some s := by
  unfold lookup at h
  split at h
  · cases h
  · simpa using List.find?_some h

theorem lookup_iff {t : T} (hw : WF t) {s : Name} {e : Nat} : lookup t s = some e ↔ nameAt t e = some s := by
  refine ⟨nameAt_of_lookup, fun h => ?_⟩
  unfold lookup
  rw [if_neg (by simpa using Nat.ne_of_gt hw.hpos)]
  cases hf : (t.buckets.getD (hash s t.hashspace) []).find? (fun e => nameAt t e == some s) with
  | none => simpa [h] using List.find?_eq_none.mp hf e ((hw.mem _ e (hash_lt s hw.hpos)).mpr ⟨s, h, rfl⟩)
  | some e' => rw [hw.uniq e' e s (by simpa using List.find?_some hf) h]

theorem lookup_eq {t : T} (hw : WF t) (s : Name) :
    lookup t s = if some s ∈ abs t then some ((abs t).idxOf (some s)) else none := by
  split
  · exact (lookup_iff hw).mpr (nameAt_iff.mpr (List.getElem?_idxOf ‹_›))
  · rw [Option.eq_none_iff_forall_ne_some]
    exact fun e he => ‹some s ∉ abs t› (List.mem_of_getElem? (nameAt_iff.mp (nameAt_of_lookup he)))

structure SameNames (t' t : T) : Prop where
  hashspace : t'.hashspace = t.hashspace
  buckets : t'.buckets = t.buckets
  abs : abs t' = abs t

theorem Holds.congr {t t' : T} {l : List (Option Name)} (h : Holds t l) (hs : SameNames t' t) : Holds t' l :=
  ⟨hs.abs.trans h.eq, hs.hashspace ▸ hs.buckets ▸ h.chains, h.inj⟩

theorem WF.congr {t t' : T} (hw : WF t) (h : SameNames t' t) : WF t' := (hw.holds.congr h).wf

theorem lookup_congr {t t' : T} (h : SameNames t' t) (s : Name) : lookup t' s = lookup t s := by
  unfold lookup
  rw [nameAt_eq, nameAt_eq, h.hashspace, h.buckets, h.abs]

/-- pool maintenance touches the pool counters only -/
theorem growPool_eq (t : T) : ∃ a b c, growPool t = { t with strsize := a, strspace := b, freed := c } := by
  unfold growPool
  split
  · exact ⟨_, _, _, rfl⟩
  · exact ⟨_, _, _, rfl⟩

theorem addStringLoop_eq (fuel : Nat) (t : T) (l : Nat) :
    ∃ a b c, addStringLoop fuel t l = { t with strsize := a, strspace := b, freed := c } := by
  induction fuel generalizing t with
  | zero => exact ⟨_, _, _, rfl⟩
  | succ f ih =>
    unfold addStringLoop
    split
    · obtain ⟨a, b, c, h⟩ := growPool_eq t
      rw [h]
      exact ih _
    · exact ⟨_, _, _, rfl⟩

theorem addString_eq (t : T) (s : Name) :
    ∃ a b c, addString t s = { t with strsize := a, strspace := b, freed := c } := by
  obtain ⟨a, b, c, h⟩ := addStringLoop_eq (2 * (t.strsize + (s.length + 1)) + 64) t (s.length + 1)
  simp only [addString, h]
  exact ⟨_, _, _, rfl⟩

theorem addString_ents (t : T) (s : Name) : (addString t s).ents = t.ents := by
  obtain ⟨_, _, _, h⟩ := addString_eq t s
  rw [h]

theorem sameNames_addString (t : T) (s : Name) : SameNames (addString t s) t := by
  obtain ⟨_, _, _, h⟩ := addString_eq t s
  rw [h]
  exact ⟨rfl, rfl, rfl⟩

/-- `rebuild` links the entries one after the other, into chains that are empty at first -/
theorem rebuild_chains (ents : Array Ent) {hs : Nat} (hpos : 0 < hs) :
    Chains hs (rebuild ents hs) (names (ents.toList.map (·.name))) := by
  have key : ∀ k, k ≤ ents.size → Chains hs
      ((List.range k).foldl (fun b i => match (ents[i]?).bind (·.name) with
        | some s => b.modify (hash s hs) (fun l => i :: l)
        | none => b) (Array.replicate hs [])) (names ((ents.toList.map (·.name)).take k)) := by
    intro k
    induction k with
    | zero =>
      intro _
      exact chains_nil hpos
    | succ k ih =>
      intro hk
      have hlen : ((ents.toList.map (·.name)).take k).length = k := by simp; omega
      have hk' := names_of_le (Nat.le_of_eq hlen)
      rw [List.range_succ, List.foldl_append, List.take_succ_eq_append_getElem (by simp; omega),
        names_append, hlen]
      simp only [List.foldl_cons, List.foldl_nil, Array.getElem?_eq_getElem (Nat.lt_of_succ_le hk),
        Option.bind_some, List.getElem_map, Array.getElem_toList]
      cases ents[k].name with
      | none => rw [update_eq_self_iff.mpr hk'.symm]; exact ih (by omega)
      | some s => exact (ih (by omega)).link hk' s
  have := key ents.size (Nat.le_refl _)
  rwa [List.take_of_length_le (by simp)] at this

theorem nextPrimeFrom_ge (fuel x : Nat) : x ≤ nextPrimeFrom fuel x := by
  induction fuel generalizing x with
  | zero => exact Nat.le_refl _
  | succ f ih =>
    unfold nextPrimeFrom
    split
    · exact Nat.le_refl _
    · exact Nat.le_trans (by omega) (ih (x + 2))

theorem nextPrime_pos (x : Nat) : 0 < nextPrime x := by
  unfold nextPrime
  split
  · omega
  · exact Nat.lt_of_lt_of_le (by split <;> omega) (nextPrimeFrom_ge _ _)

theorem Holds.grow {t : T} {l : List (Option Name)} (h : Holds t l) : Holds (grow t) l :=
  ⟨h.eq, h.eq ▸ rebuild_chains t.ents (nextPrime_pos _), h.inj⟩

theorem Holds.growWhile {t : T} {l : List (Option Name)} (h : Holds t l) (fuel : Nat) : Holds (growWhile fuel t) l := by
  induction fuel generalizing t with
  | zero => exact h
  | succ f ih =>
    unfold Symtab.growWhile    -- (qualified: inside this theorem `growWhile` is the theorem itself)
    split
    · exact ih h.grow
    · exact h

/-- growing touches the hash part only -/
theorem growWhile_eq (fuel : Nat) (t : T) :
    ∃ hs ns b, growWhile fuel t = { t with hashspace := hs, nameSpace := ns, buckets := b } := by
  induction fuel generalizing t with
  | zero => exact ⟨_, _, _, rfl⟩
  | succ f ih =>
    unfold growWhile
    split
    · exact ih (grow t)
    · exact ⟨_, _, _, rfl⟩

theorem create_holds (n : Nat) : Holds (create n) [] :=
  ⟨rfl, chains_nil (nextPrime_pos _), fun e _ s h => by simp [names] at h⟩

theorem Holds.push_unnamed {t : T} {l : List (Option Name)} (h : Holds t l) (idx : Int) :
    Holds { t with ents := t.ents.push { name := none, index := idx } } (l ++ [none]) := by
  -- (here and below the rewrite after `<;>` applies to both goals left: they speak of the names of the new list)
  refine ⟨by simp [abs, ← h.eq], ?_, ?_⟩ <;>
    rw [names_append, update_eq_self_iff.mpr (names_of_le (Nat.le_refl _)).symm]
  exacts [h.chains, h.inj]

theorem Holds.push_named {t : T} {l : List (Option Name)} (h : Holds t l) {s : Name} (hnew : some s ∉ l) (idx : Int) :
    Holds { t with ents := t.ents.push { name := some s, index := idx },
                   buckets := t.buckets.modify (hash s t.hashspace) (fun l => t.ents.size :: l) }
      (l ++ [some s]) := by
  refine ⟨by simp [abs, ← h.eq], ?_, ?_⟩ <;> rw [names_append, h.length]
  · exact h.chains.link (names_of_le (Nat.le_of_eq h.length)) s
  · exact h.inj.assign _ _ fun e' _ he' => absurd he' (names_ne_of_not_mem hnew e')

theorem register_spec {t : T} {l : List (Option Name)} (h : Holds t l) (s : Option Name) (idx : Int) :
    Holds (register t s idx).1
      (match s with
       | none => l ++ [none]
       | some n => if some n ∈ l then l else l ++ [some n]) ∧
    (register t s idx).2 = (match s with | none => false | some n => decide (some n ∈ l)) := by
  unfold register
  have h0 : Holds (if idx < 0 then { t with indexOk := false } else t) l := by
    split
    · exact h.congr ⟨rfl, rfl, rfl⟩
    · exact h
  generalize (if idx < 0 then { t with indexOk := false } else t) = t0 at h0
  cases s with
  | none => exact ⟨(h0.growWhile 64).push_unnamed idx, rfl⟩
  | some n =>
    simp only
    rw [lookup_eq h0.wf, h0.eq]
    by_cases hm : some n ∈ l
    · rw [if_pos hm, if_pos hm]
      exact ⟨h0, (decide_eq_true hm).symm⟩
    · rw [if_neg hm, if_neg hm]
      exact ⟨((h0.congr (sameNames_addString t0 n)).growWhile 64).push_named hm idx, (decide_eq_false hm).symm⟩

/-- swap-with-last removal on a list -/
def swapRemove {α : Type} (l : List α) (d : Nat) : List α :=
  if d = l.length - 1 then l.dropLast
  else match l.getLast? with
    | some x => (l.set d x).dropLast
    | none => l

/-- the list-level specification of `delete` -/
def specDelete (l : List (Option Name)) (s : Name) : List (Option Name) :=
  if some s ∈ l then swapRemove l (l.idxOf (some s)) else l

/-- on names: take the name off `d`, then move the name of the last position, if one is left, to `d` -/
theorem names_swapRemove (l : List (Option Name)) {d : Nat} (hd : d < l.length) :
    names (swapRemove l d) =
      update (update (update (names l) d none) (l.length - 1) none) d (update (names l) d none (l.length - 1)) := by
  unfold swapRemove
  by_cases hlast : d = l.length - 1
  · rw [if_pos hlast, names_dropLast, ← hlast, update_self, update_idem, update_idem]
  · have hlt : l.length - 1 < l.length := by omega
    have hn : names l (l.length - 1) = l[l.length - 1] := by rw [names, List.getElem?_eq_getElem hlt]; rfl
    rw [if_neg hlast, List.getLast?_eq_getElem?, List.getElem?_eq_getElem hlt, names_dropLast, names_set _ _ hd,
      List.length_set, update_of_ne (Ne.symm hlast), hn, update_comm hlast none none (names l), update_idem,
      update_comm hlast]

/-- the entry array `delete` leaves (see `delete_eq`), read as names -/
theorem abs_delEnts (ents : Array Ent) {d : Nat} (hd : d < ents.size) :
    (if d = ents.size - 1 then ents.pop
      else (ents.set! d (ents.getD (ents.size - 1) default)).pop).toList.map (·.name) =
      swapRemove (ents.toList.map (·.name)) d := by
  unfold swapRemove
  rw [List.length_map, Array.length_toList]
  split
  · simp
  · simp [List.getLast?_eq_getElem?, show ents.size - 1 < ents.size by omega]

theorem getD_name (ents : Array Ent) (k : Nat) :
    (ents.getD k default).name = names (ents.toList.map (·.name)) k := by
  simp only [names, Array.getD_eq_getD_getElem?, List.getElem?_map, Array.getElem?_toList]
  cases ents[k]? <;> rfl

/-- `delete` in one piece -/
theorem delete_eq (t : T) (s : Name) : delete t s =
    match lookup t s with
    | none => (t, 1)
    | some d =>
      let last := t.ents.size - 1
      let unlinked := t.buckets.modify (hash s t.hashspace) fun l => l.filter fun e' => e' != d
      ({ t with
          indexOk := false
          freed := t.freed + s.length + 1
          ents := if d = last then t.ents.pop else (t.ents.set! d (t.ents.getD last default)).pop
          buckets := (update (names (abs t)) d none last).elim unlinked fun ls =>
            unlinked.modify (hash ls t.hashspace) fun l => l.map fun e => if e == last then d else e }, 0) := by
  unfold delete
  cases lookup t s with
  | none => rfl
  | some d =>
    simp only [removeFromBucket]
    by_cases hlast : d = t.ents.size - 1
    · subst hlast
      simp only [beq_self_eq_true, ↓reduceIte, update_self, Option.elim_none]
    · simp only [beq_iff_eq, if_neg hlast, update_of_ne (Ne.symm hlast), abs, ← getD_name]
      cases (t.ents.getD (t.ents.size - 1) default).name <;> rfl

theorem delete_spec {t : T} {l : List (Option Name)} (h : Holds t l) (s : Name) :
    Holds (delete t s).1 (specDelete l s) ∧ (delete t s).2 = if some s ∈ l then 0 else 1 := by
  obtain rfl := h.eq
  rw [delete_eq, lookup_eq h.wf, specDelete]
  by_cases hm : some s ∈ abs t
  · have hd : names (abs t) ((abs t).idxOf (some s)) = some s := names_eq_some.mpr (List.getElem?_idxOf hm)
    have hdlt := List.idxOf_lt_length_of_mem hm
    rw [if_pos hm, if_pos hm, if_pos hm]
    generalize (abs t).idxOf (some s) = d at hd hdlt ⊢
    refine ⟨⟨abs_delEnts t.ents (abs_length t ▸ hdlt), ?_, ?_⟩, rfl⟩ <;>
      rw [names_swapRemove _ hdlt, abs_length]
    · exact (h.chains.unlink hd).renumber? (update_self ..)
    · exact (h.inj.assign d none fun _ _ _ => rfl).move _ d
  · rw [if_neg hm, if_neg hm, if_neg hm]
    exact ⟨h, rfl⟩

/-- the list-level specification of `rename` -/
def specRename (l : List (Option Name)) (i : Nat) (nn : Option Name) : List (Option Name) :=
  if i ≥ l.length then l
  else match nn with
    | some ns => if some ns ∈ l then l else l.set i (some ns)
    | none => l.set i none

theorem abs_modify_name (ents : Array Ent) (i : Nat) (nm : Option Name) :
    (ents.modify i (fun v => { v with name := nm })).toList.map (·.name) =
      (ents.toList.map (·.name)).set i nm := by
  apply List.ext_getElem?
  intro e
  simp only [List.getElem?_map, Array.getElem?_toList, Array.getElem?_modify, List.getElem?_set,
    List.length_map, Array.length_toList]
  by_cases h : i = e
  · subst h
    by_cases hi : i < ents.size <;> simp [hi]
  · simp [h]

/-- `rename` in one piece -/
theorem rename_eq (t : T) (i : Nat) (nn : Option Name) : rename t i nn =
    if i ≥ t.ents.size then (t, 2)
    else match nn.bind (lookup t) with
      | some k => (t, if k == i then 0 else 1)
      | none =>
        let t1 : T := { t with
          buckets := (names (abs t) i).elim t.buckets fun os =>
            t.buckets.modify (hash os t.hashspace) fun l => l.filter fun e' => e' != i
          freed := (names (abs t) i).elim t.freed fun os => t.freed + os.length + 1 }
        match nn with
        | some ns =>
          let t2 := addString t1 ns
          ({ t2 with ents := t2.ents.modify i (fun e => { e with name := some ns }),
                     buckets := t2.buckets.modify (hash ns t2.hashspace) (fun l => i :: l) }, 0)
        | none => ({ t1 with ents := t1.ents.modify i (fun e => { e with name := none }) }, 0) := by
  unfold rename
  cases nn.bind (lookup t) with
  | some k => rfl
  | none =>
    rw [← nameAt_eq]
    cases nameAt t i <;> rfl

theorem rename_spec {t : T} {l : List (Option Name)} (h : Holds t l) (i : Nat) (nn : Option Name) :
    Holds (rename t i nn).1 (specRename l i nn) := by
  obtain rfl := h.eq
  rw [rename_eq]
  unfold specRename
  rw [abs_length]
  by_cases hi : i ≥ t.ents.size
  · rw [if_pos hi, if_pos hi]
    exact h
  rw [if_neg hi, if_neg hi]
  have hlt : i < (abs t).length := by rw [abs_length]; omega
  cases nn with
  | none =>
    refine ⟨abs_modify_name _ i none, ?_, ?_⟩ <;> rw [names_set _ _ hlt]
    · exact h.chains.unlink? i
    · exact h.inj.assign i none fun _ _ _ => rfl
  | some ns =>
    simp only [Option.bind_some]
    rw [lookup_eq h.wf]
    by_cases hm : some ns ∈ abs t
    · rw [if_pos hm, if_pos hm]
      exact h
    rw [if_neg hm, if_neg hm]
    refine ⟨by rw [abs, addString_ents]; exact abs_modify_name _ i _, ?_, ?_⟩ <;> rw [names_set _ _ hlt]
    · -- the new name goes through `add_string` and in front of its chain
      simp only [(sameNames_addString _ ns).buckets, (sameNames_addString _ ns).hashspace]
      rw [← update_idem (β := fun _ => Option Name) none]
      exact (h.chains.unlink? i).link (update_self ..) ns
    · exact h.inj.assign i _ fun e' _ he' => absurd he' (names_ne_of_not_mem hm e')

end Qsx.Symtab
