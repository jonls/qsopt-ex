import Qsx.Model.Xform
import Qsx.Proofs.Sums
import Mathlib.Tactic.Ring
import Mathlib.Tactic.Linarith

set_option backward.split false

namespace Qsx.Xform
open Qsx LP

def Infeasible (L : LP) (pinf ninf : Rat) : Prop := ¬ ∃ x, L.Feasible pinf ninf x
def IsOpt (L : LP) (pinf ninf : Rat) (v : Rat) : Prop :=
  ∃ x, L.Feasible pinf ninf x ∧ L.objv x = v ∧ ∀ x', L.Feasible pinf ninf x' → L.better v (L.objv x')
/-- feasible, and for every target some feasible point is strictly better than it -/
def Unbounded (L : LP) (pinf ninf : Rat) : Prop :=
  (∃ x, L.Feasible pinf ninf x) ∧ ∀ t : Rat, ∃ x, L.Feasible pinf ninf x ∧ ¬ L.better t (L.objv x)

/-- `L'` is a reformulation of `L` with objective relation `value' = a·value + b`; a negative `a`
goes with the opposite sense -/
structure Sim (L L' : LP) (pinf ninf : Rat) (a b : Rat) : Prop where
  ha : a ≠ 0
  sense : L'.isMin = (if 0 < a then L.isMin else !L.isMin)
  fwd : ∀ x, L.Feasible pinf ninf x → ∃ x', L'.Feasible pinf ninf x' ∧ L'.objv x' = a * L.objv x + b
  bwd : ∀ x', L'.Feasible pinf ninf x' → ∃ x, L.Feasible pinf ninf x ∧ L'.objv x' = a * L.objv x + b

section
variable {L L' L'' : LP} {pinf ninf a b a' b' : Rat}

/-- the objective map `v ↦ a·v + b` carries "better" to "better": a negative `a` reverses the order,
and the sense is the opposite one -/
theorem Sim.better_iff (h : Sim L L' pinf ninf a b) (v w : Rat) :
    L'.better (a * v + b) (a * w + b) ↔ L.better v w := by
  unfold LP.better
  rw [h.sense]
  rcases h.ha.lt_or_gt with hn | hp
  · simp only [if_neg hn.not_gt, add_le_add_iff_right, mul_le_mul_left_of_neg hn]
    -- left: `if !L.isMin then w ≤ v else v ≤ w`
    cases L.isMin <;> rfl
  · simp only [if_pos hp, add_le_add_iff_right, mul_le_mul_iff_right₀ hp]

theorem affine_inv (ha : a ≠ 0) (b w : Rat) : a⁻¹ * (a * w + b) + -(a⁻¹ * b) = w := by
  rw [mul_add, inv_mul_cancel_left₀ ha, add_neg_cancel_right]

theorem Sim.refl (L : LP) (pinf ninf : Rat) : Sim L L pinf ninf 1 0 :=
  ⟨one_ne_zero, (if_pos one_pos).symm, fun x hx => ⟨x, hx, by rw [one_mul, add_zero]⟩,
    fun x hx => ⟨x, hx, by rw [one_mul, add_zero]⟩⟩

/-- the relation is symmetric, with the inverse objective map: the statements about status and value
below need one direction only -/
theorem Sim.symm (h : Sim L L' pinf ninf a b) : Sim L' L pinf ninf a⁻¹ (-(a⁻¹ * b)) := by
  have inv : ∀ {w w' : Rat}, w' = a * w + b → w = a⁻¹ * w' + -(a⁻¹ * b) :=
    fun e => by rw [e, affine_inv h.ha]
  refine ⟨inv_ne_zero h.ha, ?_, fun x' hx' => ?_, fun x hx => ?_⟩
  · simp only [h.sense, inv_pos]
    split
    · rfl
    · rw [Bool.not_not]
  · obtain ⟨x, hx, e⟩ := h.bwd x' hx'
    exact ⟨x, hx, inv e⟩
  · obtain ⟨x', hx', e⟩ := h.fwd x hx
    exact ⟨x', hx', inv e⟩

theorem Sim.trans (h : Sim L L' pinf ninf a b) (h' : Sim L' L'' pinf ninf a' b') :
    Sim L L'' pinf ninf (a' * a) (a' * b + b') := by
  refine ⟨mul_ne_zero h'.ha h.ha, ?_, fun x hx => ?_, fun x'' hx'' => ?_⟩
  · -- the sense flips once for each negative factor
    rw [h'.sense, h.sense]
    rcases h.ha.lt_or_gt with n | p <;> rcases h'.ha.lt_or_gt with n' | p'
    · rw [if_neg n'.not_gt, if_neg n.not_gt, if_pos (mul_pos_of_neg_of_neg n' n), Bool.not_not]
    · rw [if_pos p', if_neg n.not_gt, if_neg (mul_neg_of_pos_of_neg p' n).not_gt]
    · rw [if_neg n'.not_gt, if_pos p, if_neg (mul_neg_of_neg_of_pos n' p).not_gt]
    · rw [if_pos p', if_pos p, if_pos (mul_pos p' p)]
  · obtain ⟨x', hx', e⟩ := h.fwd x hx
    obtain ⟨x'', hx'', e'⟩ := h'.fwd x' hx'
    exact ⟨x'', hx'', by rw [e', e, mul_add, mul_assoc, add_assoc]⟩
  · obtain ⟨x', hx', e'⟩ := h'.bwd x'' hx''
    obtain ⟨x, hx, e⟩ := h.bwd x' hx'
    exact ⟨x, hx, by rw [e', e, mul_add, mul_assoc, add_assoc]⟩

theorem Sim.feasible_fwd (h : Sim L L' pinf ninf a b) :
    (∃ x, L.Feasible pinf ninf x) → ∃ x', L'.Feasible pinf ninf x' :=
  fun ⟨x, hx⟩ => let ⟨x', hx', _⟩ := h.fwd x hx; ⟨x', hx'⟩

theorem Sim.opt_fwd (h : Sim L L' pinf ninf a b) {v : Rat} (ho : IsOpt L pinf ninf v) :
    IsOpt L' pinf ninf (a * v + b) := by
  obtain ⟨x, hx, hv, hbest⟩ := ho
  obtain ⟨x', hx', e⟩ := h.fwd x hx
  refine ⟨x', hx', by rw [e, hv], fun z' hz' => ?_⟩
  obtain ⟨z, hz, ez⟩ := h.bwd z' hz'
  rw [ez]
  exact (h.better_iff v _).mpr (hbest z hz)

theorem Sim.unbounded_fwd (h : Sim L L' pinf ninf a b) (hu : Unbounded L pinf ninf) :
    Unbounded L' pinf ninf := by
  refine ⟨h.feasible_fwd hu.1, fun t' => ?_⟩
  -- a point of `L` beating the target that corresponds to `t'`
  obtain ⟨z, hz, hb⟩ := hu.2 (a⁻¹ * t' + -(a⁻¹ * b))
  obtain ⟨z', hz', e⟩ := h.symm.bwd z hz
  refine ⟨z', hz', fun hc => hb ?_⟩
  rw [e]
  exact (h.symm.better_iff _ _).mpr hc

theorem Sim.infeasible (h : Sim L L' pinf ninf a b) :
    Infeasible L pinf ninf ↔ Infeasible L' pinf ninf :=
  not_congr ⟨h.feasible_fwd, h.symm.feasible_fwd⟩

theorem Sim.optimal (h : Sim L L' pinf ninf a b) (v : Rat) :
    IsOpt L pinf ninf v ↔ IsOpt L' pinf ninf (a * v + b) :=
  ⟨h.opt_fwd, fun ho => by
    have := h.symm.opt_fwd ho
    rwa [affine_inv h.ha] at this⟩

theorem Sim.unbounded (h : Sim L L' pinf ninf a b) :
    Unbounded L pinf ninf ↔ Unbounded L' pinf ninf :=
  ⟨h.unbounded_fwd, h.symm.unbounded_fwd⟩

end

end Qsx.Xform
