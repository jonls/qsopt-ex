import Qsx.Proofs.CertSound

set_option backward.split false

namespace Qsx
open ILP

/-- a column the Farkas test does not refuse: its contribution to `farkasObj` is at most what any
value inside the present bounds contributes -/
theorem farkas_term {pinf ninf : Rat} {c : Col} {t v : Rat}
    (hok : farkasColOK pinf ninf c t = true)
    (hlo : c.lo ≠ ninf → c.lo ≤ v) (hup : c.up ≠ pinf → v ≤ c.up) :
    farkasContrib c t ≤ t * v := by
  simp only [farkasColOK, Bool.and_eq_true, Bool.not_eq_true', Bool.and_eq_false_iff,
    beq_eq_false_iff_ne, decide_eq_false_iff_not, not_lt] at hok
  -- `hok` is now `(c.up ≠ pinf ∨ 0 ≤ t) ∧ (c.lo ≠ ninf ∨ t ≤ 0)`
  unfold farkasContrib
  split
  next ht => exact mul_le_mul_of_nonpos_left (hok.1.elim hup fun h => absurd ht h.not_gt) ht.le
  next ht =>
    rcases (not_lt.mp ht).eq_or_lt with rfl | hp
    · rw [zero_mul, zero_mul]
    · exact mul_le_mul_of_nonneg_left (hok.2.elim hlo fun h => absurd hp h.not_gt) hp.le

/-- **C02, core.**  If the Farkas test accepts `y`, the internal LP has no feasible point (bounds
equal to the encodings of ±infinity read as absent). -/
theorem infeasibleTest_sound {P : ILP} {pinf ninf : Rat} {ds : Array Rat}
    (hw : P.WF) (h : infeasibleTest P pinf ninf ds = true) :
    ¬ ∃ x s, P.Feasible pinf ninf x s := by
  rintro ⟨x, s, hf⟩
  simp only [infeasibleTest, Bool.and_eq_true, allTo_iff, decide_eq_true_eq] at h
  obtain ⟨⟨hS, hL⟩, hpos⟩ := h
  -- `0 < y·b + Σ contributions ≤ y·b - Σ_c (A_c·y) z_c = 0`
  have t1 := sumTo_le fun j hj => farkas_term (hS j hj) (hf.xlo j hj) (hf.xup j hj)
  have t2 := sumTo_le fun i hi => farkas_term (hL i hi) (hf.slo i hi) (hf.sup i hi)
  have e (c : Col) (v : Rat) : farkasT c (rget ds) * v = -(entDot c.ent (rget ds) * v) := neg_mul ..
  simp only [e, sumTo_neg] at t1 t2
  unfold farkasObj at hpos
  linarith [rows_identity P hw x s (rget ds) hf.rows]

end Qsx
