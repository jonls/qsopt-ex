import Qsx.Model.Cap

set_option backward.split false

namespace Qsx.Cap
open Qsx

theorem extraRows_pos : 0 < Gen.extraRows := by decide
theorem extraCols_pos : 0 < Gen.extraCols := by decide

theorem grow_gt (size n extra : Nat) (h : n ≤ size) (he : 0 < extra) : n < grow size n extra := by
  unfold grow
  split <;> omega

theorem grow_ge (size n extra : Nat) : size ≤ grow size n extra := by
  unfold grow
  split <;> omega

/-- `ncols = nstruct + nrows` survives one more, or `k` fewer, of either kind -/
theorem sum_succ {c a b : Nat} (h : c = a + b) : c + 1 = a + (b + 1) ∧ c + 1 = a + 1 + b :=
  ⟨h ▸ rfl, h ▸ (Nat.succ_add a b).symm⟩

theorem sum_sub {c a b k : Nat} (h : c = a + b) : (k ≤ b → c - k = a + (b - k)) ∧ (k ≤ a → c - k = a - k + b) :=
  ⟨fun hk => h ▸ Nat.add_sub_assoc hk a, fun hk => h ▸ Nat.sub_add_comm hk⟩

/-- C17: every operation writes inside the (re)allocated arrays and keeps the invariant -/
theorem step_safe (s : S) (o : Op) (h : Inv s) : WritesInBounds (step s o).1 (step s o).2 ∧ Inv (step s o).1 := by
  obtain ⟨h1, h2, h3, h4, h5, h6⟩ := h
  have row := grow_gt s.rowsize s.nrows _ h1 extraRows_pos
  have col := grow_gt s.colsize s.ncols _ h2 extraCols_pos
  have str := grow_gt s.structsize s.nstruct _ h3 extraCols_pos
  have mat := grow_gt s.matcolsize s.matcols _ h4 extraCols_pos
  have del {n size : Nat} (k : Nat) (h : n ≤ size) : n - k ≤ size := Nat.le_trans (Nat.sub_le ..) h
  cases o with
  | addRow => exact ⟨⟨row, col, trivial, mat⟩, row, col, h3, mat, (sum_succ h5).1, congrArg (· + 1) h6⟩
  | addCol => exact ⟨⟨trivial, col, str, mat⟩, h1, col, str, mat, (sum_succ h5).2, congrArg (· + 1) h6⟩
  | delRows k =>
    exact ⟨⟨trivial, trivial, trivial, trivial⟩, del _ h1, del _ h2, h3, del _ h4,
      (sum_sub h5).1 (Nat.min_le_right ..), congrArg (· - _) h6⟩
  | delCols k =>
    exact ⟨⟨trivial, trivial, trivial, trivial⟩, h1, del _ h2, del _ h3, del _ h4,
      (sum_sub h5).2 (Nat.min_le_right ..), congrArg (· - _) h6⟩

theorem inv_init : Inv {} := by simp [Inv]

theorem run_inv (s : S) (ops : List Op) (h : Inv s) : Inv (run s ops) :=
  List.foldlRecOn ops _ h fun s hs o _ => (step_safe s o hs).2

end Qsx.Cap
