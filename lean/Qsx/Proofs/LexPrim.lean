/-
The primitives both lexer models (`Qsx.LpLex`, `Qsx.MpsLex`) are built from, as `Post` facts: reading
the character at a position of a terminated string, the scanning loops, and the lengths of the
tokens libc finds.  A position moves forward only over characters that were seen not to be the
terminator (`rd_post`, `nul_ne`), to where a scanning loop stopped (`scanWhile_post`), or over a
token found in the rest of the line (`drop_fits`).
-/
import Qsx.Model.LpLex
import Qsx.Proofs.Post

set_option backward.split false

namespace Qsx.LpLex

theorem rd_post {b : List Char} {i : Nat} (h : i ≤ b.length) : Post (rd b i) fun c => c ≠ NUL → i < b.length := by
  unfold rd
  split
  · exact .pure fun _ => ‹_›
  · rw [if_pos (by omega)]
    exact .pure fun h => absurd rfl h

theorem scanFrom_post (P : Char → Nat → Bool) (hP : ∀ k, P NUL k = false) :
    ∀ (l : List Char) (i k : Nat), Post (scanFrom P l i k) fun j => i ≤ j ∧ j ≤ i + l.length
  | [], i, k => by simp [scanFrom, hP, Post]
  | c :: cs, i, k => by
    unfold scanFrom
    split
    · exact (scanFrom_post P hP cs (i + 1) (k + 1)).mono fun j hj => by simp; omega
    · exact .pure (by omega)

theorem scanWhile_post (P : Char → Nat → Bool) (hP : ∀ k, P NUL k = false) {b : List Char} {i : Nat} (k : Nat)
    (h : i ≤ b.length) : Post (scanWhile P b i k) fun j => i ≤ j ∧ j ≤ b.length := by
  unfold scanWhile
  rw [if_pos h]
  exact (scanFrom_post P hP _ i k).mono fun j hj => by simp at hj; omega

/-- a token of `n` characters found in the rest of the line at `p` ends inside the line -/
theorem drop_fits {l : List Char} {p n : Nat} (hp : p ≤ l.length) (h : n ≤ (l.drop p).length) : p + n ≤ l.length := by
  rw [List.length_drop] at h
  omega

theorem isBlank_nul (_ : Nat) : isBlank NUL = false := by decide

theorem nul_ne {c d : Char} (h : (c == d) = true) (hd : d ≠ NUL := by decide) : c ≠ NUL := by
  rintro rfl
  exact hd (eq_of_beq h).symm

theorem nul_ne₂ {c d e : Char} (h : (c == d || c == e) = true) (hd : d ≠ NUL := by decide)
    (he : e ≠ NUL := by decide) : c ≠ NUL :=
  (Bool.or_eq_true _ _ ▸ h).elim (nul_ne · hd) (nul_ne · he)

theorem sscanfS_len {t f : List Char} (h : sscanfS t = some f) : 0 < f.length ∧ f.length ≤ t.length := by
  unfold sscanfS at h
  dsimp only at h
  split at h
  · cases h
  · cases h
    refine ⟨?_, ((List.takeWhile_sublist _).trans (List.dropWhile_sublist _)).length_le⟩
    -- the first character left after dropping white space is no white space
    cases hd : t.dropWhile isSpace with
    | nil => simp [hd] at *
    | cons c cs =>
      have hc : isSpace c = false := by simpa [hd] using List.head?_dropWhile_not isSpace t
      simp [hc]

theorem prefixCI_len {t str : List Char} (h : prefixCI t str = true) : str.length ≤ t.length := by
  unfold prefixCI at h
  simp at h
  exact h.2

end Qsx.LpLex
