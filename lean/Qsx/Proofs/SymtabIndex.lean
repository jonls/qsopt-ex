/-
`ILLsymboltab_index_reset` (symtab.c:202-269): a reset with a list of distinct names that are all in
the table gives the j-th name the index j, sets `indexOk`, and leaves the names, the chains and the
other entries' indices as they are (`indexReset_go`); what
`ILLsymboltab_getindex` then answers is `Props/C06.symtab_getindex_after_reset`.
-/
import Qsx.Proofs.SymtabSound

set_option backward.split false

namespace Qsx.Symtab

theorem index_setIndex (ents : Array Ent) {k : Nat} (hk : k < ents.size) (i : Int) (k' : Nat) :
    ((ents.modify k (fun v => { v with index := i })).getD k' default).index =
      if k' = k then i else (ents.getD k' default).index := by
  simp only [Array.getD_eq_getD_getElem?, Array.getElem?_modify]
  by_cases h : k = k'
  · subst h
    simp [hk]
  · rw [if_neg h, if_neg (Ne.symm h)]

theorem sameNames_setIndex (t : T) (k : Nat) (i : Int) :
    SameNames { t with ents := t.ents.modify k fun v => { v with index := i } } t := by
  refine ⟨rfl, rfl, List.ext_getElem? fun e => ?_⟩
  simp only [abs, List.getElem?_map, Array.getElem?_toList, Array.getElem?_modify]
  split
  · cases t.ents[e]? <;> rfl
  · rfl

/-- the loop of `index_reset` from position `i`: every name is found and gets its position; names, chains
and the indices of the entries not named stay -/
theorem indexReset_go (names : List Name) : ∀ (t : T) (i : Nat),
    (∀ s ∈ names, ∃ k, lookup t s = some k) → names.Nodup →
    ∃ t', indexReset.go t i names = (t', 0) ∧ t'.indexOk = true ∧ SameNames t' t ∧
      (∀ j s k, names[j]? = some s → lookup t s = some k →
        (t'.ents.getD k default).index = ((i + j : Nat) : Int)) ∧
      (∀ k, (∀ s ∈ names, lookup t s ≠ some k) →
        (t'.ents.getD k default).index = (t.ents.getD k default).index) := by
  induction names with
  | nil =>
    intro t i _ _
    exact ⟨_, rfl, rfl, ⟨rfl, rfl, rfl⟩, fun j s k h => by simp at h, fun _ _ => rfl⟩
  | cons s rest ih =>
    intro t i hall hnd
    obtain ⟨k, hk⟩ := hall s (List.mem_cons_self ..)
    have hklt : k < t.ents.size := nameAt_lt (nameAt_of_lookup hk)
    have h1 := sameNames_setIndex t k i
    have hlk := lookup_congr h1
    obtain ⟨t', hgo, hok, hsame, hset, hkeep⟩ := ih _ (i + 1)
      (fun s' hs' => by rw [hlk]; exact hall s' (List.mem_cons_of_mem _ hs')) (List.nodup_cons.mp hnd).2
    simp only [hlk] at hset hkeep
    refine ⟨t', by rw [indexReset.go, hk]; exact hgo, hok,
      ⟨hsame.hashspace, hsame.buckets, hsame.abs.trans h1.abs⟩, ?_, ?_⟩
    · intro j s' k' hj hk'
      cases j with
      | zero =>
        obtain rfl : s = s' := by simpa using hj
        obtain rfl : k = k' := Option.some.inj (hk.symm.trans hk')
        -- the names are distinct, so no later name looks up to `k`: its index stays
        have later : ∀ s'' ∈ rest, lookup t s'' ≠ some k := fun s'' hs'' hc => by
          have : s = s'' := Option.some.inj ((nameAt_of_lookup hk).symm.trans (nameAt_of_lookup hc))
          exact (List.nodup_cons.mp hnd).1 (this ▸ hs'')
        rw [hkeep k later, index_setIndex _ hklt, if_pos rfl]
        rfl
      | succ j' =>
        rw [hset j' s' k' (by simpa using hj) hk', Nat.add_right_comm, Nat.add_assoc]
    · intro k' hk'
      rw [hkeep k' fun s'' hs'' => hk' s'' (List.mem_cons_of_mem _ hs''), index_setIndex _ hklt, if_neg]
      rintro rfl
      exact hk' s (List.mem_cons_self ..) hk

end Qsx.Symtab
