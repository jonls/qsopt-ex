/-
Total correctness of `Option` programs: `Post x Q` says that `x` answers and that its answer
satisfies `Q`.  The lexer models are `do` blocks in `Option` whose `none` means "read behind the
string terminator"; their safety proofs walk through a block with `Post.bind`, one call at a time.
-/
namespace Qsx

def Post {α : Type} (x : Option α) (Q : α → Prop) : Prop := ∃ a, x = some a ∧ Q a

namespace Post
variable {α β : Type} {x : Option α} {f : α → Option β} {P Q : α → Prop} {R : β → Prop} {a : α}

theorem pure (h : Q a) : Post (some a) Q := ⟨a, rfl, h⟩

theorem bind (hx : Post x P) (hf : ∀ a, P a → Post (f a) R) : Post (x >>= f) R := by
  obtain ⟨a, rfl, ha⟩ := hx
  exact hf a ha

theorem mono (hx : Post x P) (h : ∀ a, P a → Q a) : Post x Q := by
  obtain ⟨a, rfl, ha⟩ := hx
  exact ⟨a, rfl, h a ha⟩

theorem pure₂ {σ : Type} {P : σ → α → Prop} {s : σ} (h : P s a) : Post (some (s, a)) fun x => P x.1 x.2 :=
  ⟨_, rfl, h⟩

/-- `bind` for a program that returns a state and a value, as the lexer functions do -/
theorem bind₂ {σ : Type} {x : Option (σ × α)} {f : σ × α → Option β} {P : σ → α → Prop}
    (hx : Post x fun a => P a.1 a.2) (hf : ∀ s r, P s r → Post (f (s, r)) R) : Post (x >>= f) R :=
  hx.bind fun a => hf a.1 a.2

theorem exists₂ {σ : Type} {x : Option (σ × α)} {P : σ → α → Prop} (hx : Post x fun a => P a.1 a.2) :
    ∃ s r, x = some (s, r) ∧ P s r :=
  let ⟨(s, r), e, h⟩ := hx; ⟨s, r, e, h⟩

theorem elim (hx : Post x Q) (h : x = some a) : Q a := by
  obtain ⟨b, rfl, hb⟩ := hx
  cases h
  exact hb

end Post
end Qsx
