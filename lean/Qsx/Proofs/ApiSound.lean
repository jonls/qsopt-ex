import Qsx.Proofs.ToInternal
import Qsx.Proofs.FarkasSound

namespace Qsx
open ILP

theorem certCheck_sound {P : ILP} {pinf ninf : Rat} {x s y : Nat → Rat} (hw : P.WF)
    (h : certCheck P pinf ninf x s y = true) :
    P.BoxFeasible x s ∧ ∀ x' s', P.Feasible pinf ninf x' s' → P.better (P.objv x s) (P.objv x' s') := by
  simp only [certCheck, Bool.and_eq_true, allTo_iff, decide_eq_true_eq] at h
  obtain ⟨⟨⟨⟨⟨⟨hrow, hxb⟩, hsb⟩, csS⟩, csL⟩, hnS⟩, hnL⟩ := h
  exact ⟨⟨hrow, fun j hj => (hxb j hj).1, fun j hj => (hxb j hj).2,
      fun i hi => (hsb i hi).1, fun i hi => (hsb i hi).2⟩,
    fun x' s' hf => cs_dominates_inf hw y hrow csS csL hnS hnL hf⟩

namespace LP

/-- the LP has objective values better than any bound -/
def Unbounded (L : LP) (pinf ninf : Rat) : Prop :=
  ∀ M : Rat, ∃ x, L.Feasible pinf ninf x ∧ (if L.isMin then L.objv x < M else M < L.objv x)

def IsOptimal (L : LP) (pinf ninf : Rat) (x : Nat → Rat) : Prop :=
  L.Feasible pinf ninf x ∧ ∀ x', L.Feasible pinf ninf x' → L.better (L.objv x) (L.objv x')

theorem certOK_sound {L : LP} {pinf ninf : Rat} {x pi : Array Rat} (hw : L.WF)
    (h : L.certOK pinf ninf x pi = true) : L.IsOptimal pinf ninf (rget x) := by
  rw [certOK, Bool.and_eq_true] at h
  obtain ⟨hbox, hdom⟩ := certCheck_sound (L.toInternal_WF pinf) h.2
  refine ⟨feasible_drop hw hbox, fun x' hf' => ?_⟩
  have := hdom x' _ (feasible_lift hw hf')
  -- `ILP.better` of the internal LP and `LP.better` unfold to the same comparison
  rwa [objv_toInternal, objv_toInternal] at this

theorem checkFarkas_sound {L : LP} {pinf ninf : Rat} {y : Array Rat} (hw : L.WF)
    (h : L.checkFarkas pinf ninf y = true) : ¬ ∃ x, L.Feasible pinf ninf x := by
  rw [checkFarkas, Bool.and_eq_true] at h
  rintro ⟨x, hf⟩
  exact infeasibleTest_sound (L.toInternal_WF pinf) h.2 ⟨x, _, feasible_lift hw hf⟩

theorem objv_add_smul (L : LP) (x r : Nat → Rat) (t : Rat) :
    L.objv (fun j => x j + t * r j) = L.objv x + t * L.objv r := by
  unfold objv
  rw [← sumTo_mul_left, ← sumTo_add]
  exact sumTo_congr fun j _ => by ring

/-- a row stays satisfied along a direction that passes the row check `checkRay` applies to its ray -/
theorem rowHolds_add_ray {w : Row} {v d t : Rat} (hv : rowHolds w v) (ht : 0 ≤ t)
    (hd : if w.sense = 'L' then d ≤ 0 else if w.sense = 'G' then 0 ≤ d else d = 0) :
    rowHolds w (v + t * d) := by
  unfold rowHolds at hv ⊢
  by_cases hL : w.sense = 'L'
  · rw [if_pos hL] at hv hd ⊢
    exact add_le_of_le_of_nonpos hv (mul_nonpos_of_nonneg_of_nonpos ht hd)
  rw [if_neg hL] at hv hd ⊢
  by_cases hG : w.sense = 'G'
  · rw [if_pos hG] at hv hd ⊢
    exact le_add_of_le_of_nonneg hv (mul_nonneg ht hd)
  rw [if_neg hG] at hd
  rwa [hd, mul_zero, add_zero]

theorem checkRay_spec {L : LP} {pinf ninf : Rat} {x r : Array Rat}
    (h : L.checkRay pinf ninf x r = true) :
    (∀ t, 0 ≤ t → L.Feasible pinf ninf (fun j => rget x j + t * rget r j)) ∧
    (if L.isMin then L.objv (rget r) < 0 else 0 < L.objv (rget r)) := by
  -- the row checks become `rowHolds` and the hypothesis of `rowHolds_add_ray`, unfolded
  simp only [checkRay, Bool.and_eq_true, allTo_iff, Bool.or_eq_true, beq_iff_eq,
    Bool.ite_eq_true_distrib, decide_eq_true_eq] at h
  obtain ⟨⟨⟨⟨⟨_, hxr⟩, hxb⟩, hrr⟩, hrb⟩, himp⟩ := h
  refine ⟨fun t ht => ⟨fun i hi => ?_, fun j hj hne => ?_, fun j hj hne => ?_⟩, himp⟩
  · rw [act, entDot_add_smul]
    exact rowHolds_add_ray (hxr i hi) ht (hrr i hi)
  · exact le_add_of_le_of_nonneg ((hxb j hj).1.resolve_left hne)
      (mul_nonneg ht ((hrb j hj).1.resolve_left hne))
  · exact add_le_of_le_of_nonpos ((hxb j hj).2.resolve_left hne)
      (mul_nonpos_of_nonneg_of_nonpos ht ((hrb j hj).2.resolve_left hne))

theorem exists_step {a g M : Rat} (hg : 0 < g) : ∃ t, 0 ≤ t ∧ M < a + t * g := by
  obtain ⟨t, ht0, ht⟩ : ∃ t : Rat, 0 ≤ t ∧ (M - a) / g < t :=
    ⟨max 0 ((M - a) / g + 1), le_max_left _ _, lt_max_of_lt_right (lt_add_one _)⟩
  exact ⟨t, ht0, lt_add_of_sub_left_lt ((div_lt_iff₀ hg).mp ht)⟩

theorem checkRay_sound {L : LP} {pinf ninf : Rat} {x r : Array Rat}
    (h : L.checkRay pinf ninf x r = true) : L.Unbounded pinf ninf := by
  intro M
  obtain ⟨hfeas, himp⟩ := checkRay_spec h
  cases hm : L.isMin <;> simp only [hm, Bool.false_eq_true, ↓reduceIte] at himp ⊢
  · obtain ⟨t, ht, hlt⟩ := exists_step (a := L.objv (rget x)) (M := M) himp
    exact ⟨_, hfeas t ht, by rwa [objv_add_smul]⟩
  · obtain ⟨t, ht, hlt⟩ := exists_step (a := - L.objv (rget x)) (M := - M) (neg_pos.mpr himp)
    exact ⟨_, hfeas t ht, by rw [objv_add_smul]; linarith⟩

theorem optimal_farkas_exclusive {L : LP} {pinf ninf : Rat} {x pi y : Array Rat} (hw : L.WF)
    (h1 : L.certOK pinf ninf x pi = true) (h2 : L.checkFarkas pinf ninf y = true) : False :=
  checkFarkas_sound hw h2 ⟨_, (certOK_sound hw h1).1⟩

theorem ray_farkas_exclusive {L : LP} {pinf ninf : Rat} {x r y : Array Rat} (hw : L.WF)
    (h1 : L.checkRay pinf ninf x r = true) (h2 : L.checkFarkas pinf ninf y = true) : False := by
  obtain ⟨z, hz, _⟩ := checkRay_sound h1 0
  exact checkFarkas_sound hw h2 ⟨z, hz⟩

theorem optimal_ray_exclusive {L : LP} {pinf ninf : Rat} {x pi x0 r : Array Rat} (hw : L.WF)
    (h1 : L.certOK pinf ninf x pi = true) (h2 : L.checkRay pinf ninf x0 r = true) : False := by
  obtain ⟨z, hz, hlt⟩ := checkRay_sound h2 (L.objv (rget x))
  have := (certOK_sound hw h1).2 z hz
  unfold better at this
  generalize L.isMin = b at this hlt
  -- with `b` a constant both `if`s reduce by `rfl`, to the two orientations of the same contradiction
  cases b <;> exact not_lt_of_ge this hlt

theorem certified_value_unique {L : LP} {pinf ninf : Rat} {x₁ pi₁ x₂ pi₂ : Array Rat} (hw : L.WF)
    (h1 : L.certOK pinf ninf x₁ pi₁ = true) (h2 : L.certOK pinf ninf x₂ pi₂ = true) :
    L.objv (rget x₁) = L.objv (rget x₂) :=
  better_antisymm ((certOK_sound hw h1).2 _ (certOK_sound hw h2).1)
    ((certOK_sound hw h2).2 _ (certOK_sound hw h1).1)

end LP
end Qsx
