import Qsx.Model.LpBounds
import Mathlib.Tactic.Linarith
import Mathlib.Tactic.NormNum

set_option backward.split false

namespace Qsx.LpBounds
open Qsx

theorem defaultLower_iff {lo up ninf : Rat} :
    defaultLower lo up ninf = true ↔ (lo = 0 ∧ ¬ up < 0) ∨ (lo = ninf ∧ up < 0) := by
  simp [defaultLower]

theorem defaultUpper_iff {lo up pinf : Rat} {isInt : Bool} :
    defaultUpper lo up pinf isInt = true ↔ if isInt = true ∧ lo = 0 then up = 1 else up = pinf := by
  simp only [defaultUpper, Bool.and_eq_true, beq_iff_eq]
  split <;> exact beq_iff_eq

/-- the rule both writers follow - a bound is left out exactly when its default test holds - loses
nothing for a column that is not free (`hf`; for a free one the writers print `free` / `FR`): the
reader's defaults put the omitted bounds back.  (`readCol` on a line `range a b` is what either reader
makes of a column whose lower, resp. upper, bound is stated, `some`, or left to the defaults, `none`.) -/
theorem readCol_defaults (lo up pinf ninf : Rat) (isInt : Bool) (hf : ¬(lo == ninf && up == pinf) = true) :
    readCol pinf ninf isInt (some (.range (if !defaultLower lo up ninf then some lo else none)
      (if !defaultUpper lo up pinf isInt then some up else none))) = (lo, up) := by
  cases hl : defaultLower lo up ninf <;> cases hu : defaultUpper lo up pinf isInt <;>
    simp only [Bool.not_false, Bool.not_true, if_true, Bool.false_eq_true, if_false, readCol]
  · -- only the upper bound omitted: it is `pinf`, because an integer column `[0, 1]` omits both
    rw [defaultUpper_iff] at hu
    split at hu
    · next hc =>
      cases hl.symm.trans (defaultLower_iff.mpr (.inl ⟨hc.2, by rw [hu]; norm_num⟩))
    · rw [hu]
  · -- only the lower bound omitted
    rcases defaultLower_iff.mp hl with ⟨rfl, h⟩ | ⟨rfl, h⟩ <;> simp [h]
  · -- both omitted: the lower bound is 0 (were it `ninf` with `up < 0`, `up` would be neither 1 nor, as the
    -- column is not free, `pinf`)
    rw [defaultUpper_iff] at hu
    rcases defaultLower_iff.mp hl with ⟨rfl, h⟩ | ⟨rfl, h⟩
    · clear hf    -- not needed here, and dear for `simp_all`
      cases isInt <;> simp_all
    · split at hu
      · linarith
      · exact absurd (by simp [hu]) hf

/-- no line at all reads like a `range` line that states neither bound -/
theorem readCol_range (pinf ninf : Rat) (isInt pl pu : Bool) (lo up : Rat) :
    readCol pinf ninf isInt
        (if pl || pu then some (.range (if pl then some lo else none) (if pu then some up else none)) else none)
      = readCol pinf ninf isInt (some (.range (if pl then some lo else none) (if pu then some up else none))) := by
  cases pl <;> cases pu <;> rfl

/-- (also where the writer prints nothing for the column; no hypothesis on the bounds or on the encodings of
the infinite ones is needed) -/
theorem read_write (lo up pinf ninf : Rat) (isInt : Bool) :
    readCol pinf ninf isInt (writeCol lo up pinf ninf isInt) = (lo, up) := by
  unfold writeCol
  split
  · next h =>
      rw [eq_of_beq h]
      rfl
  · split
    · next h =>
        rw [Bool.and_eq_true, beq_iff_eq, beq_iff_eq] at h
        rw [h.1, h.2]
        rfl
    · next h => exact (readCol_range ..).trans (readCol_defaults lo up pinf ninf isInt h)

end Qsx.LpBounds

namespace Qsx.MpsBounds
open Qsx Qsx.LpBounds

/-- the records the writer prints for the bounds it does not omit (`MI`/`LO`, then `PL`/`UP`), read
with the "first definition wins" flags and the fill-in, give what the LP reader makes of the `range` line
with the same bounds -/
theorem readCol_records (pinf ninf : Rat) (isInt pl pu : Bool) (lo up : Rat) :
    readCol pinf ninf isInt ((if pl then [if lo == ninf then Rec.mi else Rec.lo lo] else []) ++
        (if pu then [if up == pinf then Rec.pl else Rec.up up] else []))
      = LpBounds.readCol pinf ninf isInt (some (.range (if pl then some lo else none) (if pu then some up else none))) := by
  have lower (s : St) : apply pinf ninf s (if lo == ninf then Rec.mi else Rec.lo lo) = setLower s lo := by
    split
    · next h => rw [apply, ← eq_of_beq h]
    · rfl
  have upper (s : St) : apply pinf ninf s (if up == pinf then Rec.pl else Rec.up up) = setUpper s up := by
    split
    · next h => rw [apply, ← eq_of_beq h]
    · rfl
  cases pl <;> cases pu <;>
    simp only [readCol, if_true, Bool.false_eq_true, if_false, List.foldl_append, List.foldl_cons, List.foldl_nil,
      lower, upper] <;>
    simp [setLower, setUpper, fillIn, LpBounds.readCol]

theorem read_write (lo up pinf ninf : Rat) (isInt : Bool) :
    readCol pinf ninf isInt (writeCol lo up pinf ninf isInt) = (lo, up) := by
  unfold writeCol
  split
  · next h =>
      rw [eq_of_beq h]
      rfl
  · split
    · next h =>
        rw [Bool.and_eq_true, beq_iff_eq, beq_iff_eq] at h
        rw [h.1, h.2]
        rfl
    · next h => exact (readCol_records ..).trans (readCol_defaults lo up pinf ninf isInt h)

end Qsx.MpsBounds

namespace Qsx.MpsRanges
open Qsx

theorem abs_ite (r : Rat) : (if r < 0 then -r else r) = |r| := by
  split
  · next h => exact (abs_of_neg h).symm
  · next h => exact (abs_of_nonneg (not_lt.mp h)).symm

end Qsx.MpsRanges
