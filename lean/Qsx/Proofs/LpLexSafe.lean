/-
Safety and progress of the LP lexer model (C11, `Qsx.LpLex`, read_lp.c).

One theorem per lexer function, `f_post : Inv s → Post (f s) Q`: from a state whose cursor is inside
the line's string the function answers - it never reads behind the string terminator - and the
answer satisfies `Q`: `Inv` of the new state, and for the functions that only move forward `Adv`,
which adds that the input still to be read does not grow and shrinks when a token was delivered.  So
safety and progress of a function come out of one walk through its `do` block.
-/
import Qsx.Model.LpLex
import Qsx.Proofs.NumScan
import Qsx.Proofs.LexPrim

set_option backward.split false

namespace Qsx.LpLex

theorem rd_le {b : List Char} {i : Nat} {c : Char} (h : rd b i = some c) : i ≤ b.length := by
  unfold rd at h
  split at h
  · omega
  · split at h
    · omega
    · cases h

/-- the shape of a lexer step from `s` to `s'` with answer `r`: the cursor stays inside the string, the input does not
grow, and it shrinks when the answer is `ok` -/
structure Adv {α : Type} (s : St) (ok : α → Prop) (s' : St) (r : α) : Prop where
  inv : Inv s'
  le : remaining s' ≤ remaining s
  lt : ok r → remaining s' < remaining s

theorem Adv.of_move {α : Type} {s s1 s' : St} {r : α} {ok : α → Prop} (m1 : remaining s1 ≤ remaining s)
    (hl : s'.line = s1.line) (hf : s'.file = s1.file) (hp : s1.p ≤ s'.p) (hi : s'.p ≤ s1.line.length)
    (hok : ok r → s1.p < s'.p) : Adv s ok s' r := by
  refine ⟨by unfold Inv; rw [hl]; omega, ?_, fun h => ?_⟩
  · simp only [remaining, hl, hf] at m1 ⊢
    omega
  · have := hok h
    simp only [remaining, hl, hf] at m1 ⊢
    omega

theorem Adv.stay {α : Type} {s s1 : St} {r : α} {ok : α → Prop} (i1 : Inv s1) (m1 : remaining s1 ≤ remaining s)
    (h : ¬ ok r) : Adv s ok s1 r := ⟨i1, m1, fun h' => absurd h' h⟩

theorem nextLine_go_post (s : St) : ∀ (file : List (List Char)) (n : Nat),
    Post (nextLine.go s file n) fun x => Inv x.1 ∧ remaining x.1 ≤ (file.map (fun l => l.length + 1)).sum
  | [], n => by unfold nextLine.go; exact .pure ⟨Nat.zero_le _, Nat.zero_le _⟩
  | raw :: rest, n => by
    unfold nextLine.go
    have hlen : ((cstr raw).takeWhile (· != '\\')).length ≤ raw.length :=
      ((List.takeWhile_sublist _).trans (List.takeWhile_sublist _)).length_le
    refine (scanWhile_post _ isBlank_nul 0 (Nat.zero_le _)).bind fun p hp => ?_
    refine (rd_post hp.2).bind fun c _ => ?_
    split
    · exact ⟨_, rfl, hp.2, by simp only [remaining, List.map_cons, List.sum_cons]; omega⟩
    · exact (nextLine_go_post s rest (n + 1)).mono fun x hx =>
        ⟨hx.1, by simp only [List.map_cons, List.sum_cons] at hx ⊢; omega⟩

theorem nextLine_post (s : St) (h : Inv s) : Post (nextLine s) fun x => Adv s (fun _ => False) x.1 x.2 := by
  unfold nextLine
  split
  · exact .pure₂ ⟨h, le_refl _, False.elim⟩
  · exact (nextLine_go_post s _ _).mono fun x hx =>
      ⟨hx.1, hx.2.trans (Nat.le_add_left _ _), False.elim⟩

theorem skipBlanks_post (s : St) (wrap : Bool) (h : Inv s) :
    Post (skipBlanks s wrap) fun x => Adv s (fun _ => False) x.1 x.2 := by
  unfold skipBlanks
  refine (scanWhile_post _ isBlank_nul 0 h).bind fun p hp => ?_
  have a : Adv s (fun (_ : Int) => False) { s with p := p } 0 := .of_move (le_refl _) rfl rfl hp.1 hp.2 False.elim
  refine (rd_post hp.2).bind fun c _ => ?_
  split
  · split
    · refine (nextLine_post _ a.inv).bind₂ fun s' r hx => ?_
      dsimp only
      split <;> exact .pure₂ ⟨hx.inv, le_trans hx.le a.le, False.elim⟩
    · exact .pure₂ a
  · exact .pure₂ a

theorem colon_post (s : St) (h : Inv s) : Post (colon s) fun x => Adv s (· = 0) x.1 x.2 := by
  unfold colon
  refine (skipBlanks_post s true h).bind₂ fun s1 r1 ⟨i1, m1, _⟩ => ?_
  dsimp only
  split
  · exact .pure₂ (.stay i1 m1 (by decide))
  · refine (rd_post i1).bind fun c hc => ?_
    split
    · exact .pure₂ (.of_move m1 rfl rfl (Nat.le_succ _) (hc (nul_ne ‹_›)) fun _ => Nat.lt_succ_self _)
    · exact .pure₂ (.stay i1 m1 (by decide))

theorem nextField_post (s : St) (across : Bool) (h : Inv s) :
    Post (nextField s across) fun x => Adv s (· = 0) x.1 x.2 := by
  unfold nextField
  refine (skipBlanks_post s across h).bind₂ fun s1 r1 ⟨i1, m1, _⟩ => ?_
  dsimp only
  split
  · exact .pure₂ (.stay i1 m1 (by decide))
  · split
    · rename_i f hf
      exact .pure₂ (.of_move m1 rfl rfl (Nat.le_add_right _ _) (drop_fits i1 (sscanfS_len hf).2) fun _ =>
        Nat.lt_add_of_pos_right (sscanfS_len hf).1)
    · exact .pure₂ (.stay i1 m1 (by decide))

theorem scanBack_post (P : Char → Bool) (b : List Char) {i : Nat} (h : i ≤ b.length) :
    Post (scanBack P b i) (· ≤ i) := by
  unfold scanBack
  rw [if_pos h]
  refine .pure ?_
  generalize ((b ++ [NUL]).take (i + 1)).reverse = l
  induction i generalizing l with
  | zero => simp [backFrom]
  | succ i ih =>
    cases l with
    | nil => simp [backFrom]
    | cons c cs =>
      unfold backFrom
      split
      · exact Nat.le_succ_of_le (ih (Nat.le_of_succ_le h) cs)
      · exact le_refl _

theorem prevField_post (s : St) (h : Inv s) : Post (prevField s) Inv := by
  unfold prevField Inv at *
  refine (scanBack_post isBlank s.line (i := if s.p > 0 then s.p - 1 else s.p) (by split <;> omega)).bind fun p1 h1 => ?_
  refine (scanBack_post _ s.line (by split at h1 <;> omega)).bind fun p2 h2 => ?_
  exact .pure (by dsimp only; split at h1 <;> omega)

theorem lpError_post (s : St) (h : Inv s) : Post (lpError s) Inv := by
  unfold lpError
  refine (skipBlanks_post s false h).bind₂ fun s1 r1 ⟨i1, _, _⟩ => ?_
  dsimp only
  split
  · refine (rd_post i1).bind fun c _ => ?_
    split
    · refine (scanWhile_post _ isBlank_nul 0 i1).bind fun q hq => ?_
      refine (scanWhile_post _ (fun _ => by decide) 0 hq.2).bind fun _ _ => ?_
      exact .pure i1
    · exact .pure i1
  · exact .pure i1

theorem badKeyword_post (s : St) (h : Inv s) : Post (badKeyword s) fun x => Inv x.1 ∧ (x.2 = 0 → x.1 = s) := by
  unfold badKeyword
  split
  · exact (lpError_post s h).bind fun s1 i1 => .pure ⟨i1, nofun⟩
  · exact .pure ⟨h, fun _ => rfl⟩

theorem keyword_post (s : St) (kwd : List (List Char)) (h : Inv s) : Post (keyword s kwd) fun x => Inv x.1 := by
  unfold keyword
  split
  · exact .pure h
  · refine (badKeyword_post s h).bind fun ⟨s1, r1⟩ ⟨i1, _⟩ => ?_
    dsimp only
    split <;> exact .pure i1

theorem isNameChar_nul (k : Nat) : isNameChar NUL k = false := by
  simp [isNameChar, isAlpha, Num.isDigit, NUL]

theorem nextVar_post (s : St) (h : Inv s) : Post (nextVar s) fun x => Adv s (· = 0) x.1 x.2 := by
  unfold nextVar
  refine (skipBlanks_post s true h).bind₂ fun s1 r1 ⟨i1, m1, _⟩ => ?_
  dsimp only
  split
  · exact .pure₂ (.stay i1 m1 (by decide))
  · refine (scanWhile_post _ isNameChar_nul 0 i1).bind fun q hq => ?_
    split
    · exact .pure₂ (.stay i1 m1 (by decide))
    · split
      · exact .pure₂ (.stay i1 m1 (by decide))
      · rename_i hlen _
        exact .pure₂ (.of_move m1 rfl rfl hq.1 hq.2 fun _ => by simp at hlen; dsimp only; omega)

theorem nextConstraint_post (s : St) (h : Inv s) : Post (nextConstraint s) fun x => Inv x.1 := by
  unfold nextConstraint
  refine (skipBlanks_post s true h).bind₂ fun s1 r1 ⟨i1, _, _⟩ => ?_
  dsimp only
  split
  · exact .pure i1
  · split
    · exact (lpError_post s1 i1).bind fun s2 i2 => .pure i2
    · refine (nextField_post s1 true i1).bind₂ fun s2 r2 ⟨i2, _, _⟩ => ?_
      split
      · exact (prevField_post s2 i2).bind fun s3 i3 => .pure i3
      · exact .pure i2

theorem sign_post (s : St) (h : Inv s) : Post (sign s) fun x => Adv s (·.1 = 0) x.1 x.2 := by
  unfold sign
  refine (skipBlanks_post s true h).bind₂ fun s1 r1 ⟨i1, m1, _⟩ => ?_
  dsimp only
  split
  · exact .pure₂ (.stay i1 m1 (by decide))
  · refine (rd_post i1).bind fun c hc => ?_
    split
    · exact .pure₂ (.of_move m1 rfl rfl (Nat.le_succ _) (hc (nul_ne ‹_›)) fun _ => Nat.lt_succ_self _)
    · split
      · exact .pure₂ (.of_move m1 rfl rfl (Nat.le_succ _) (hc (nul_ne ‹_›)) fun _ => Nat.lt_succ_self _)
      · exact .pure₂ (.stay i1 m1 (by decide))

theorem testNextIs_post (s : St) (str : List Char) (h : Inv s) : Post (testNextIs s str) fun x => Inv x.1 := by
  unfold testNextIs
  refine (skipBlanks_post s false h).bind₂ fun s1 r1 ⟨i1, _, _⟩ => ?_
  dsimp only
  split
  · have hb := drop_fits i1 (prefixCI_len ‹_›)
    refine (rd_post hb).bind fun c _ => ?_
    split
    · exact .pure hb
    · exact .pure i1
  · exact .pure i1

theorem value_post (s : St) (h : Inv s) : Post (value s) fun x => Adv s (·.1 = 0) x.1 x.2 := by
  unfold value
  refine (skipBlanks_post s true h).bind₂ fun s1 r1 ⟨i1, m1, _⟩ => ?_
  dsimp only
  split
  · exact .pure₂ (.stay i1 m1 (by decide))
  · have hle := Num.scan_consumes_le (s1.line.drop s1.p)
    split
    · rename_i n q hs
      rw [hs] at hle
      split
      · exact .pure₂ (.of_move m1 rfl rfl (Nat.le_add_right _ _) (drop_fits i1 hle) fun _ =>
          Nat.lt_add_of_pos_right ‹n > 0›)
      · exact .pure₂ (.stay i1 m1 (by decide))
    · exact .pure₂ (.stay i1 m1 (by decide))

theorem infWord_post (s : St) (sg : Int) (len : Nat) (hb : s.p + len ≤ s.line.length) :
    Post (infWord s sg len) fun x => Inv x.1 := by
  unfold infWord
  refine (rd_post hb).bind fun c _ => ?_
  refine (skipBlanks_post { s with p := s.p + len } false hb).bind₂ fun s2 r2 ⟨i2, _, _⟩ => ?_
  dsimp only
  split
  · exact .pure (Nat.le_of_add_right_le hb)
  · exact .pure i2

theorem possibleBoundValue_post (s : St) (h : Inv s) : Post (possibleBoundValue s) fun x => Inv x.1 := by
  unfold possibleBoundValue
  refine (sign_post s h).bind₂ fun s1 r1 ⟨i1, _, _⟩ => ?_
  dsimp only
  have word : ∀ {str : List Char} {n : Nat}, str.length = n → prefixCI (s1.line.drop s1.p) str = true →
      s1.p + n ≤ s1.line.length :=
    fun hn hp => hn ▸ drop_fits i1 (prefixCI_len hp)
  split
  · exact infWord_post s1 _ 8 (word rfl ‹_›)
  · split
    · exact infWord_post s1 _ 3 (word rfl ‹_›)
    · refine (value_post s1 i1).bind₂ fun s2 r2 ⟨i2, _, _⟩ => ?_
      split
      · split <;> exact .pure i2
      · exact .pure i2

theorem testSense_post (s : St) (all : Bool) (h : Inv s) : Post (testSense s all) fun x => Inv x.1 := by
  unfold testSense
  refine (skipBlanks_post { s with sense := ' ' } true h).bind₂ fun s1 r1 ⟨i1, _, _⟩ => ?_
  dsimp only
  split
  · exact .pure i1
  · refine (rd_post i1).bind fun c hc => ?_
    -- the inner block: a sense of one or two characters; the cursor moves only over characters it has seen not to be
    -- the terminator
    refine Post.bind (P := Inv) ?_ fun s2 i2 => .pure i2
    split
    · split
      · exact .pure (hc (nul_ne ‹_›))
      · split
        · refine (rd_post (hc (nul_ne ‹_›))).bind fun c1 h1 => ?_
          split
          · exact .pure (h1 (nul_ne ‹_›))
          · exact .pure i1
        · exact .pure i1
    · split
      · have hb := hc (nul_ne₂ ‹_›)
        refine (rd_post hb).bind fun c1 h1 => .pure ?_
        split
        · exact h1 (nul_ne ‹_›)
        · exact hb
      · split
        · have hb := hc (nul_ne ‹_›)
          refine (rd_post hb).bind fun c1 h1 => ?_
          split
          · exact .pure (h1 (nul_ne₂ ‹_›))
          · exact .pure hb
        · exact .pure i1

theorem readSense_post (s : St) (h : Inv s) : Post (readSense s) fun x => Inv x.1 := by
  unfold readSense
  refine (testSense_post s true h).bind fun ⟨s1, r1⟩ i1 => ?_
  dsimp only
  split
  · refine (rd_post i1).bind fun _ _ => ?_
    exact (lpError_post s1 i1).bind fun s2 i2 => .pure i2
  · exact .pure i1

theorem checkSubjectTo_post (s : St) (h : Inv s) : Post (checkSubjectTo s) fun x => Inv x.1 := by
  unfold checkSubjectTo
  refine (nextField_post s true h).bind₂ fun s1 r1 ⟨i1, _, _⟩ => ?_
  dsimp only
  split
  · exact .pure i1
  · refine Post.bind (P := fun x => Inv x.1) ?_ fun ⟨s2, rv⟩ i2 => ?_
    · split
      · exact (badKeyword_post s1 i1).mono fun x hx => hx.1
      · split
        · refine (scanWhile_post _ isBlank_nul 0 i1).bind fun q hq => ?_
          split
          · have hb : q + "TO".toList.length ≤ s1.line.length := drop_fits hq.2 (prefixCI_len ‹_›)
            refine (badKeyword_post s1 i1).bind fun ⟨s2, r2⟩ ⟨i2, z2⟩ => ?_
            dsimp only at z2 ⊢
            split
            · cases z2 (by simpa using ‹(r2 == 0) = true›)
              exact .pure hb
            · exact .pure i2
          · exact .pure i1
        · exact .pure i1
    · dsimp only
      split
      · exact (prevField_post s2 i2).bind fun s3 i3 => .pure i3
      · exact (skipBlanks_post s2 true i2).bind fun x hx => .pure hx.inv

theorem init_post (file : List (List Char)) : Post (init file) Inv := by
  unfold init
  exact (skipBlanks_post { file := file } true (Nat.zero_le _)).bind fun x hx => .pure hx.inv

/-- the call answers (no read behind the terminator) and leaves the cursor inside the string -/
def Safe {α : Type} (x : Option (St × α)) : Prop := ∃ s r, x = some (s, r) ∧ Inv s

theorem Safe.bind {α β : Type} {x : Option (St × α)} {f : St × α → Option (St × β)}
    (hx : Safe x) (hf : ∀ s r, Inv s → Safe (f (s, r))) : Safe (x >>= f) := by
  obtain ⟨s, r, rfl, hs⟩ := hx
  exact hf s r hs

theorem safe_of_adv {α : Type} {x : Option (St × α)} {s : St} {ok : α → Prop}
    (h : Post x fun a => Adv s ok a.1 a.2) : Safe x :=
  (h.mono fun _ ha => ha.inv).exists₂ (P := fun s _ => Inv s)

theorem safe_of_inv {α : Type} {x : Option (St × α)} (h : Post x fun a => Inv a.1) : Safe x :=
  h.exists₂ (P := fun s _ => Inv s)

/-- `skip_blanks` answers only from a state with the cursor inside the string, and so does every call that starts with
it: the progress statements need no hypothesis on the state -/
theorem inv_of_skipBlanks {s : St} {w : Bool} {x : St × Int} (h : skipBlanks s w = some x) : Inv s := by
  unfold skipBlanks scanWhile at h
  by_contra hn
  rw [if_neg (show ¬ s.p ≤ s.line.length from hn)] at h
  cases h

theorem inv_of_skipBlanks_bind {β : Type} {s : St} {w : Bool} {f : St × Int → Option β} {y : β}
    (h : (skipBlanks s w >>= f) = some y) : Inv s :=
  let ⟨_, h1, _⟩ := Option.bind_eq_some_iff.mp h
  inv_of_skipBlanks h1

/-- a `:` occurs before the end of the line -/
def colonAhead : List Char → Bool
  | [] => false
  | c :: cs => if endLine c then false else if c == ':' then true else colonAhead cs

theorem rd_drop {b : List Char} {i : Nat} (h : i ≤ b.length) (j : Nat) : rd (b.drop i) j = rd b (i + j) := by
  unfold rd
  simp only [List.length_drop, List.getElem_drop]
  split
  · rw [dif_pos (by omega)]
  · rw [dif_neg (by omega)]
    split
    · rw [if_pos (by omega)]
    · rw [if_neg (by omega)]

/-- the loop of `has_colon` stops on a character of the string, and that character is a `:` exactly when one lies ahead -/
theorem scanFrom_colon : ∀ (l : List Char) (i k : Nat),
    ∃ j c, scanFrom (fun c _ => !endLine c && c != ':') l i k = some (i + j) ∧ rd l j = some c ∧
      (c == ':') = colonAhead l
  | [], i, k => ⟨0, NUL, rfl, rfl, rfl⟩
  | c :: cs, i, k => by
    unfold scanFrom colonAhead
    cases he : endLine c
    · cases hc : c == ':'
      · simp only [bne, hc, Bool.not_false, Bool.and_true, if_true, Bool.false_eq_true, if_false]
        obtain ⟨j, c', hj, hc', h⟩ := scanFrom_colon cs (i + 1) (k + 1)
        exact ⟨j + 1, c', hj.trans (congrArg some (by omega)), by simpa [rd] using hc', h⟩
      · simp only [bne, hc, Bool.not_true, Bool.and_false, Bool.false_eq_true, if_false, if_true]
        exact ⟨0, c, rfl, rfl, hc⟩
    · have hc : (c == ':') = false := by
        unfold endLine at he
        simp only [Bool.or_eq_true, beq_iff_eq] at he
        rcases he with (rfl | rfl) | rfl <;> decide
      simp only [Bool.not_true, Bool.false_and, Bool.false_eq_true, if_false, if_true]
      exact ⟨0, c, rfl, rfl, hc⟩

/-- C10 (the claim is spelt out at `Props.C10.has_colon_spec`) -/
theorem hasColon_spec (s : St) (h : Inv s) :
    ∃ s1 r1, skipBlanks s false = some (s1, r1) ∧
      hasColon s = some (s1, if colonAhead (s1.line.drop s1.p) then 1 else 0) := by
  obtain ⟨s1, r1, h1, i1, _⟩ := (skipBlanks_post s false h).exists₂
  obtain ⟨j, c, hj, hc, hcc⟩ := scanFrom_colon (s1.line.drop s1.p) s1.p 0
  rw [rd_drop i1] at hc
  refine ⟨s1, r1, h1, ?_⟩
  unfold hasColon scanWhile
  simp only [h1, if_pos (show s1.p ≤ s1.line.length from i1), hj, hc, hcc, Option.bind_eq_bind, Option.bind_some,
    Option.pure_def]

theorem hasColon_post (s : St) (h : Inv s) : Post (hasColon s) fun x => Inv x.1 :=
  let ⟨_, _, h1, h2⟩ := hasColon_spec s h
  ⟨_, h2, ((skipBlanks_post s false h).elim h1).1⟩

end Qsx.LpLex
