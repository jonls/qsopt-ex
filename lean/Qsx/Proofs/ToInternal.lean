import Qsx.Model.LP
import Qsx.Proofs.CertSound

set_option backward.split false

namespace Qsx
open ILP

namespace LP

/-- well-formedness of an API-level LP: entries index existing columns, senses are the four
documented ones -/
structure WF (L : LP) : Prop where
  idx : ∀ i, i < L.nr → ∀ e ∈ (L.row i).ent, e.1 < L.nc
  sense : ∀ i, i < L.nr → (L.row i).sense = 'L' ∨ (L.row i).sense = 'G' ∨ (L.row i).sense = 'E' ∨ (L.row i).sense = 'R'

@[simp] theorem ti_ns (L : LP) (p : Rat) : (L.toInternal p).ns = L.nc := by
  simp [toInternal, ILP.ns]
@[simp] theorem ti_nrows (L : LP) (p : Rat) : (L.toInternal p).nrows = L.nr := rfl

theorem ti_scol (L : LP) (p : Rat) (j : Nat) (hj : j < L.nc) :
    (L.toInternal p).scol j =
      { ent := L.colEnt j, lo := (L.col j).lo, up := (L.col j).up, obj := (L.col j).obj } := by
  simp [toInternal, ILP.scol, Array.getD, hj]

theorem ti_lcol (L : LP) (p : Rat) (i : Nat) (hi : i < L.nr) :
    (L.toInternal p).lcol i =
      { ent := [(i, logCoef (L.row i))], lo := 0, up := logUp p (L.row i), obj := 0 } := by
  simp [toInternal, ILP.lcol, Array.getD, hi]

theorem ti_b (L : LP) (p : Rat) (i : Nat) (hi : i < L.nr) :
    (L.toInternal p).b i = (L.row i).rhs := by
  have : i < L.rows.size := hi
  simp [toInternal, ILP.b, rget, LP.row, Array.getD, this]

theorem logCoef_ne_zero (r : Row) : logCoef r ≠ 0 := by
  unfold logCoef
  split <;> norm_num

theorem entAt_flatMap_range (n : Nat) (g : Nat → List (Nat × Rat)) (i : Nat) :
    entAt ((List.range n).flatMap g) i = sumTo n (fun k => entAt (g k) i) := by
  induction n with
  | zero => simp [sumTo]
  | succ n ih =>
    rw [List.range_succ, List.flatMap_append, entAt_append, ih]
    simp [sumTo]

theorem entAt_rowpart (ent : List (Nat × Rat)) (j k i : Nat) :
    entAt ((ent.filter (fun e => e.1 == j)).map (fun e => (k, e.2))) i
      = if k = i then entAt ent j else 0 := by
  induction ent with
  | nil => simp
  | cons e l ih =>
    by_cases he : e.1 = j <;> simp [he, ih, ite_add_ite]

/-- `colEnt` is the transposed matrix -/
theorem entAt_colEnt (L : LP) (j i : Nat) (hi : i < L.nr) :
    entAt (L.colEnt j) i = entAt (L.row i).ent j := by
  unfold colEnt
  simp only [entAt_flatMap_range, entAt_rowpart, @eq_comm _ _ i]
  exact sumTo_ite_eq L.nr i hi (fun k => entAt (L.row k).ent j)

theorem structAct_toInternal (L : LP) (hw : L.WF) (p : Rat) (x : Nat → Rat) (i : Nat) (hi : i < L.nr) :
    structAct (L.toInternal p) x i = L.act x i := by
  unfold structAct LP.act
  rw [entDot_eq_sumTo L.nc _ x (hw.idx i hi), ti_ns]
  exact sumTo_congr fun j hj => by simp only [ti_scol L p j hj, entAt_colEnt L j i hi]

theorem toInternal_WF (L : LP) (p : Rat) : (L.toInternal p).WF := by
  constructor
  · intro i hi
    exact ⟨logCoef (L.row i), logCoef_ne_zero _, by rw [ti_lcol L p i hi]⟩
  · intro j hj e he
    rw [ti_ns] at hj
    simp only [ti_scol L p j hj, colEnt, List.mem_flatMap, List.mem_range, List.mem_map] at he
    obtain ⟨k, hk, e', _, rfl⟩ := he
    exact hk

theorem objv_toInternal (L : LP) (p : Rat) (x s : Nat → Rat) :
    (L.toInternal p).objv x s = L.objv x := by
  unfold ILP.objv LP.objv
  rw [ti_ns, ti_nrows]
  have h2 : sumTo L.nr (fun i => ((L.toInternal p).lcol i).obj * s i) = 0 :=
    sumTo_eq_zero fun i hi => by simp only [ti_lcol L p i hi, zero_mul]
  rw [h2, add_zero]
  exact sumTo_congr fun j hj => by simp only [ti_scol L p j hj]

theorem coef_toInternal (L : LP) (p : Rat) (i : Nat) (hi : i < L.nr) :
    ((L.toInternal p).lcol i).coef = logCoef (L.row i) := by
  simp only [ti_lcol L p i hi, Col.coef]

theorem rowsHold_toInternal (L : LP) (hw : L.WF) (p : Rat) (x s : Nat → Rat) :
    (L.toInternal p).RowsHold x s ↔
      ∀ i, i < L.nr → L.act x i = (L.row i).rhs - logCoef (L.row i) * s i :=
  forall₂_congr fun i hi => by
    rw [structAct_toInternal L hw p x i hi, coef_toInternal L p i hi, ti_b L p i hi,
      eq_sub_iff_add_eq]

theorem act_slackOf (L : LP) (x : Nat → Rat) (i : Nat) :
    L.act x i = (L.row i).rhs - logCoef (L.row i) * L.slackOf x i := by
  rw [slackOf, mul_div_cancel₀ _ (logCoef_ne_zero _), sub_sub_cancel]

/-- a row holds iff its logical variable lies within the bounds `ILLlib_addrow` gives it (the
upper one is `pinf`, not a constraint, for senses `L` and `G`) -/
theorem rowHolds_iff_logical {r : Row} (pinf : Rat) {t : Rat}
    (hs : r.sense = 'L' ∨ r.sense = 'G' ∨ r.sense = 'E' ∨ r.sense = 'R') :
    rowHolds r (r.rhs - logCoef r * t) ↔
      0 ≤ t ∧ (r.sense = 'E' ∨ r.sense = 'R' → t ≤ logUp pinf r) := by
  rcases hs with hs | hs | hs | hs <;>
    simp only [rowHolds, logCoef, logUp, hs, Char.reduceEq, ↓reduceIte, or_false, or_true,
      one_mul, neg_mul, sub_neg_eq_add, tsub_le_iff_right, le_add_iff_nonneg_right,
      add_le_add_iff_left, sub_eq_self, IsEmpty.forall_iff, forall_const, and_true]
  -- left over: sense 'E', where `t = 0` is `0 ≤ t ∧ t ≤ 0`
  exact le_antisymm_iff.trans and_comm

theorem logUp_eq_pinf {r : Row} {pinf : Rat} (h : ¬ (r.sense = 'E' ∨ r.sense = 'R')) :
    logUp pinf r = pinf := by
  rw [not_or] at h
  rw [logUp, if_neg h.1, if_neg h.2]

/-- from the API-level LP to its internal form, with the slacks the rows determine.  Back (`feasible_drop`)
the box reading is asked for: a logical's bounds `0` and `logUp` are constraints of the row even where they
equal an encoding of infinity -/
theorem feasible_lift {L : LP} (hw : L.WF) {pinf ninf : Rat} {x : Nat → Rat}
    (hf : L.Feasible pinf ninf x) :
    (L.toInternal pinf).Feasible pinf ninf x (L.slackOf x) := by
  have hlog := fun i hi =>
    (rowHolds_iff_logical pinf (hw.sense i hi)).mp (act_slackOf L x i ▸ hf.rows i hi)
  refine ⟨(rowsHold_toInternal L hw pinf x _).mpr fun i _ => act_slackOf L x i, ?_, ?_, ?_, ?_⟩
  · intro j hj
    rw [ti_ns] at hj
    simp only [ti_scol L pinf j hj]
    exact hf.lo j hj
  · intro j hj
    rw [ti_ns] at hj
    simp only [ti_scol L pinf j hj]
    exact hf.up j hj
  · intro i hi _
    simp only [ti_lcol L pinf i hi]
    exact (hlog i hi).1
  · intro i hi hne
    simp only [ti_lcol L pinf i hi] at hne ⊢
    exact (hlog i hi).2 (not_imp_comm.mp logUp_eq_pinf hne)

theorem feasible_drop {L : LP} (hw : L.WF) {pinf ninf : Rat} {x s : Nat → Rat}
    (hb : (L.toInternal pinf).BoxFeasible x s) : L.Feasible pinf ninf x := by
  refine ⟨fun i hi => ?_, fun j hj _ => ?_, fun j hj _ => ?_⟩
  · have hlo := hb.slo i hi
    have hup := hb.sup i hi
    simp only [ti_lcol L pinf i hi] at hlo hup
    rw [(rowsHold_toInternal L hw pinf x s).mp hb.rows i hi]
    exact (rowHolds_iff_logical pinf (hw.sense i hi)).mpr ⟨hlo, fun _ => hup⟩
  · have := hb.xlo j (by rwa [ti_ns])
    simpa only [ti_scol L pinf j hj] using this
  · have := hb.xup j (by rwa [ti_ns])
    simpa only [ti_scol L pinf j hj] using this

end LP
end Qsx
