import Qsx.Model.LinAlg
import Qsx.Proofs.Sums
import Mathlib.Tactic.Ring

namespace Qsx.LinAlg
open Qsx

theorem tsolveOK_iff {n : Nat} {B : Nat → Nat → Rat} {y c : Nat → Rat} :
    tsolveOK n B y c = true ↔ ∀ k, k < n → vecMul n y B k = c k := by
  simp only [tsolveOK, allTo_iff, decide_eq_true_eq]

theorem solveOK_iff {n : Nat} {B : Nat → Nat → Rat} {x a : Nat → Rat} :
    solveOK n B x a = true ↔ ∀ i, i < n → mulVec n B x i = a i := by
  simp only [solveOK, allTo_iff, decide_eq_true_eq]

theorem tabRowOK_iff {n nall : Nat} {A : Nat → Nat → Rat} {r t : Nat → Rat} :
    tabRowOK n nall A r t = true ↔ ∀ j, j < nall → t j = vecMul n r A j := by
  simp only [tabRowOK, allTo_iff, decide_eq_true_eq]

theorem sumTo_unit (n i : Nat) (hi : i < n) (g : Nat → Rat) : sumTo n (fun k => unit i k * g k) = g i := by
  simp only [unit, ite_mul, one_mul, zero_mul, @eq_comm _ _ i]
  exact sumTo_ite_eq n i hi g

/-- `(r A)·z = r·(A z)`, read off two checks: `t` is `r A` on the `m` columns, `b` is `A z` on the `n` rows -/
theorem dot_of_checks {n m : Nat} {A : Nat → Nat → Rat} {r t z b : Nat → Rat}
    (ht : ∀ j, j < m → t j = vecMul n r A j) (hz : ∀ l, l < n → sumTo m (fun j => A l j * z j) = b l) :
    sumTo m (fun j => t j * z j) = sumTo n (fun l => r l * b l) :=
  calc sumTo m (fun j => t j * z j) = sumTo m (fun j => vecMul n r A j * z j) :=
        sumTo_congr fun j hj => by rw [ht j hj]
    _ = sumTo n (fun l => r l * sumTo m (fun j => A l j * z j)) := sumTo_assoc n m r A z
    _ = sumTo n (fun l => r l * b l) := sumTo_congr fun l hl => by rw [hz l hl]

/-- an inverse row reads off one entry of every forward solve -/
theorem solve_eq_of_inverse_row {n i : Nat} {B : Nat → Nat → Rat} {r x a : Nat → Rat}
    (hr : unitRowOK n B i r = true) (hx : solveOK n B x a = true) (hi : i < n) :
    x i = sumTo n (fun l => r l * a l) :=
  (sumTo_unit n i hi x).symm.trans
    (dot_of_checks (fun k hk => (tsolveOK_iff.mp hr k hk).symm) (solveOK_iff.mp hx))

theorem vecMul_replaceCol (n : Nat) (r : Nat → Rat) (B : Nat → Nat → Rat) (p : Nat)
    (a : Nat → Rat) (k : Nat) :
    vecMul n r (replaceCol B p a) k
      = if k = p then sumTo n (fun l => r l * a l) else vecMul n r B k := by
  unfold vecMul replaceCol
  by_cases h : k = p <;> simp only [h, if_true, if_false]

theorem vecMul_sub_smul (n : Nat) (r q : Nat → Rat) (c : Rat) (B : Nat → Nat → Rat) (k : Nat) :
    vecMul n (fun l => r l - c * q l) B k = vecMul n r B k - c * vecMul n q B k := by
  simp only [vecMul, sub_mul, mul_assoc, sumTo_sub, sumTo_mul_left]

/-- the product-form update: with `w = M a` the spike (the entering column in terms of the basis) and
`w p ≠ 0`, `etaRows` holds inverse rows of the matrix with column `p` replaced by `a` -/
theorem eta_update {n : Nat} {B M : Nat → Nat → Rat} {w a : Nat → Rat} {p : Nat} (hp : p < n)
    (hM : ∀ i, i < n → unitRowOK n B i (M i) = true)
    (hw : ∀ i, i < n → w i = sumTo n (fun l => M i l * a l)) (hne : w p ≠ 0) :
    ∀ i, i < n → unitRowOK n (replaceCol B p a) i (etaRows M w p i) = true := by
  intro i hi
  rw [unitRowOK, tsolveOK_iff]
  intro k hk
  -- the new row `i` is the old row `i` minus a multiple of the old row `p` ...
  have hrow : etaRows M w p i = fun l => M i l - (w i - unit i p) / w p * M p l := by
    funext l
    unfold etaRows unit
    by_cases h : i = p
    · subst h
      rw [if_pos rfl, if_pos rfl, sub_div, div_self hne]
      ring
    · rw [if_neg h, if_neg (Ne.symm h)]
      ring
  -- ... and an old row times the new matrix is a unit vector except for `w` in column `p`
  have hcol : ∀ i, i < n → vecMul n (M i) (replaceCol B p a) k = if k = p then w i else unit i k :=
    fun i hi => by rw [vecMul_replaceCol, ← hw i hi, tsolveOK_iff.mp (hM i hi) k hk]
  rw [hrow, vecMul_sub_smul, hcol i hi, hcol p hp]
  by_cases hkp : k = p
  · subst hkp
    rw [if_pos rfl, if_pos rfl, div_mul_cancel₀ _ hne, sub_sub_cancel]
  · rw [if_neg hkp, if_neg hkp, show unit p k = 0 from if_neg hkp, mul_zero, sub_zero]

end Qsx.LinAlg
