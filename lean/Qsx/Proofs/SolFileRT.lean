import Qsx.Model.SolFile

namespace Qsx.SolFile
open Qsx

/-- the one equation through which the codec is used: a component is listed iff it is non-zero -/
theorem lookup_encodeSec_cons (m n : String) (v : Rat) (ns : List String) (vs : List Rat) :
    lookup m (encodeSec (n :: ns) (v :: vs))
      = if n = m ∧ v ≠ 0 then some v else lookup m (encodeSec ns vs) := by
  unfold encodeSec
  rw [List.zip_cons_cons, List.filter_cons]
  by_cases hv : v = 0
  · simp [hv]
  · by_cases hn : n = m <;> simp [hv, hn, lookup]

theorem lookup_notin (n : String) (ns : List String) (vs : List Rat) (h : n ∉ ns) :
    lookup n (encodeSec ns vs) = none := by
  induction ns generalizing vs with
  | nil => rfl
  | cons m ms ih =>
    cases vs with
    | nil => rfl
    | cons v vs =>
      rw [lookup_encodeSec_cons, if_neg fun ⟨hc, _⟩ => h (hc ▸ .head _)]
      exact ih vs fun hm => h (.tail _ hm)

/-- the solution file determines the full vectors: only non-zero components are written, and an absent
name reads as 0 -/
theorem decode_encode (names : List String) (vals : List Rat) (hd : names.Nodup) (hl : names.length = vals.length) :
    decodeSec names (encodeSec names vals) = vals := by
  induction names generalizing vals with
  | nil => cases vals with | nil => rfl | cons => simp at hl
  | cons n ns ih =>
    cases vals with
    | nil => simp at hl
    | cons v vs =>
      obtain ⟨hn, hd'⟩ := List.nodup_cons.mp hd
      rw [decodeSec, List.map_cons]
      congr 1
      · rw [lookup_encodeSec_cons]
        by_cases hv : v = 0
        · simp [hv, lookup_notin n ns vs hn]
        · simp [hv]
      · refine Eq.trans (List.map_congr_left fun m hm => ?_) (ih vs hd' (by simpa using hl))
        rw [lookup_encodeSec_cons, if_neg fun ⟨hc, _⟩ => hn (hc ▸ hm)]

end Qsx.SolFile
