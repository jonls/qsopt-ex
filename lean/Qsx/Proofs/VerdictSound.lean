import Qsx.Model.Verdict
import Qsx.Proofs.CertSound

namespace Qsx.Verdict
open Qsx ILP

/-- a column that agrees with its status and is dual feasible passes the complementary-slackness
check of the optimality test -/
theorem csOK_of_status {isMin : Bool} {c : Col} {st : Nat} {v d : Rat}
    (h1 : colOK c st v d = true) (h2 : dualOK isMin c st d = true) : csOK isMin c v d = true := by
  have zero : d = 0 → csOK isMin c v d = true := fun h => by
    rw [csOK_iff, h, mul_zero]
    exact ⟨fun h => absurd h (lt_irrefl 0), fun h => absurd h (lt_irrefl 0)⟩
  unfold colOK at h1
  unfold dualOK at h2
  by_cases hb : isBasic st = true
  · rw [if_pos hb, beq_iff_eq] at h1
    exact zero h1
  rw [if_neg hb] at h1 h2
  by_cases hl : isLower st = true
  · -- at lower: a reduced cost towards the upper bound is allowed only on a fixed column
    rw [if_pos hl] at h1 h2
    simp only [beq_iff_eq, Bool.or_eq_true, Bool.not_eq_true', ← Bool.not_eq_true, negDir_iff] at h1 h2
    exact csOK_iff.mpr ⟨fun _ => h1, fun hn => h2.elim h1.trans fun h => absurd hn h⟩
  rw [if_neg hl] at h1 h2
  by_cases hu : isUpper st = true
  · rw [if_pos hu] at h1 h2
    simp only [beq_iff_eq, Bool.or_eq_true, Bool.not_eq_true', ← Bool.not_eq_true, posDir_iff] at h1 h2
    exact csOK_iff.mpr ⟨fun hp => h2.elim (fun e => h1.trans e.symm) fun h => absurd hp h, fun _ => h1⟩
  · rw [if_neg hu, beq_iff_eq] at h2
    exact zero h2

theorem isBasicSol_iff {P : ILP} {cs rs : Array Nat} {b : BSol} :
    isBasicSol P cs rs b = true ↔ P.RowsHold (rget b.x) (rget b.s) ∧
      (∀ j, j < P.ns → colOK (P.scol j) (nget cs j) (rget b.x j) (dzOf (P.scol j) (rget b.y)) = true) ∧
      (∀ i, i < P.nrows → colOK (P.lcol i) (nget rs i) (rget b.s i) (dzOf (P.lcol i) (rget b.y)) = true) := by
  simp only [isBasicSol, Bool.and_eq_true, allTo_iff, decide_eq_true_eq, and_assoc]
  rfl

/-- the basic solution of a dual feasible basis is at least as good as any point inside the bounds -/
theorem basic_dominates {P : ILP} {cs rs : Array Nat} {b : BSol} (hw : P.WF)
    (hb : isBasicSol P cs rs b = true) (hd : dualFeasible P cs rs b = true)
    {x' s' : Nat → Rat} (hf : P.BoxFeasible x' s') :
    P.better (P.objv (rget b.x) (rget b.s)) (P.objv x' s') := by
  obtain ⟨hrows, hcS, hcL⟩ := isBasicSol_iff.mp hb
  simp only [dualFeasible, Bool.and_eq_true, allTo_iff] at hd
  exact cs_dominates_box hw (rget b.y) hrows (fun j hj => csOK_of_status (hcS j hj) (hd.1 j hj))
    (fun i hi => csOK_of_status (hcL i hi) (hd.2 i hi)) hf

/-- a basic column has reduced cost zero, so leaving it out of `dualBound` changes nothing -/
theorem colOK_term {c : Col} {st : Nat} {v d : Rat} (h : colOK c st v d = true) :
    (if isBasic st then 0 else d * v) = d * v := by
  by_cases hb : isBasic st = true
  · rw [colOK, if_pos hb, beq_iff_eq] at h
    rw [if_pos hb, h, zero_mul]
  · rw [if_neg hb]

end Qsx.Verdict
