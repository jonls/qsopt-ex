import Qsx.Model.Multi
import Qsx.Model.Round
import Mathlib.Tactic.Ring
import Mathlib.Tactic.Linarith    -- (for the `positivity` extensions it brings)
import Mathlib.Algebra.Order.Field.Power

namespace Qsx.Multi
open Qsx

theorem step_other (s : Store) (c : Cmd) (k : Nat) (h : k ≠ c.target) : step s c k = s k := by
  cases c with
  | op j _ | copy j _ =>
    simp only [step]
    cases s j
    exacts [rfl, if_neg h]
  | free j => exact if_neg h

theorem run_other (s : Store) (cs : List Cmd) (k : Nat) (h : ∀ c ∈ cs, k ≠ c.target) : run s cs k = s k :=
  List.foldlRecOn (motive := fun b => b k = s k) cs step rfl fun b hb c hc => (step_other b c k (h c hc)).trans hb

end Qsx.Multi

namespace Qsx.Round
open Qsx

theorem pow2_eq (e : Int) : pow2 e = (2 : Rat) ^ e := by
  unfold pow2
  by_cases h : 0 ≤ e
  · rw [if_pos h]
    obtain ⟨n, rfl⟩ := Int.eq_ofNat_of_zero_le h
    simp
  · rw [if_neg h]
    obtain ⟨n, rfl⟩ := Int.exists_eq_neg_ofNat (le_of_not_ge h)
    simp

theorem rabs_eq (q : Rat) : rabs q = |q| := by
  unfold rabs
  by_cases h : q < 0
  · rw [if_pos h, abs_of_neg h]
  · rw [if_neg h, abs_of_nonneg (not_lt.mp h)]

/-- within one ulp ⇒ relative error at most `2^(1−p)` -/
theorem ulpOK_rel {q d : Rat} {e : Int} {p : Nat} (h : ulpOK q d e p = true) (hd : d ≠ 0) :
    |q - d| ≤ (2 : Rat) ^ (1 - (p : Int)) * |d| := by
  rw [ulpOK, if_neg (mt eq_of_beq hd)] at h
  simp only [Bool.and_eq_true, decide_eq_true_eq, bracket] at h
  obtain ⟨⟨h1, _⟩, h3⟩ := h
  rw [rabs_eq, pow2_eq] at h1 h3
  rw [show e + 1 - (p : Int) = 1 - p + e by ring, zpow_add₀ (by norm_num)] at h3
  exact h3.trans (mul_le_mul_of_nonneg_left h1 (by positivity))

end Qsx.Round
