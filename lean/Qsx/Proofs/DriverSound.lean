import Qsx.Model.Driver

set_option backward.split false

namespace Qsx
open Qsx.Gen

/-- an outcome is *certified* if a successful OPTIMAL carries inputs that passed `optimalTest`
together with exactly the vectors written to the out-parameters, and a successful INFEASIBLE
carries a vector that passed `infeasibleTest` and was written to `y`. -/
def Outcome.Certified (P : ILP) (pinf ninf : Rat) (o : Outcome) : Prop :=
  o.rval = 0 →
    (o.status = lpOptimal →
      ∃ cs rs ps ds c, o.cert = .optimal cs rs ps ds ∧ optimalTest P cs rs ps ds = some c ∧
        o.xOut = some (optPsolAfter P cs rs ps) ∧ o.yOut = some ds) ∧
    (o.status = lpInfeasible →
      ∃ ds, o.cert = .infeasible ds ∧ infeasibleTest P pinf ninf ds = true ∧ o.yOut = some ds)

theorem status_codes_distinct : lpOptimal ≠ lpInfeasible ∧ lpOptimal ≠ lpUnsolved ∧ lpInfeasible ≠ lpUnsolved := by
  decide

/-- what one pass through the `switch` may produce: the loop goes on, or it returns a certified outcome -/
def StepRes.Certified (P : ILP) (pinf ninf : Rat) : StepRes → Prop
  | .done o => o.Certified P pinf ninf
  | .next _ => True

theorem errOut_certified {P : ILP} {pinf ninf : Rat} {c : Carry} :
    (StepRes.done (errOut c)).Certified P pinf ninf :=
  fun h => by simp [errOut] at h

theorem optimal_certified {P : ILP} {cs rs : Array Nat} {ps ds : Array Rat} {c : Cache} {pinf ninf : Rat}
    {b : Option Basis} (h : optimalTest P cs rs ps ds = some c) :
    (StepRes.done { rval := 0, status := lpOptimal, xOut := some (optPsolAfter P cs rs ps), yOut := some ds,
                    basis := b, cert := .optimal cs rs ps ds }).Certified P pinf ninf :=
  fun _ => ⟨fun _ => ⟨cs, rs, ps, ds, c, rfl, h, rfl, rfl⟩, fun hs => absurd hs status_codes_distinct.1⟩

theorem infeasible_certified {P : ILP} {pinf ninf : Rat} {ds : Array Rat} {b : Option Basis}
    (h : infeasibleTest P pinf ninf ds = true) :
    (StepRes.done { rval := 0, status := lpInfeasible, yOut := some ds, basis := b,
                    cert := .infeasible ds }).Certified P pinf ninf :=
  fun _ => ⟨fun hs => absurd hs.symm status_codes_distinct.1, fun _ => ⟨ds, rfl, h, rfl⟩⟩

theorem handleStatus_certified (P : ILP) (pinf ninf : Rat) (isDbl : Bool) (st : Stage) (c : Carry) :
    (handleStatus P pinf ninf isDbl st c).Certified P pinf ninf := by
  unfold handleStatus
  dsimp only
  -- the tree follows the `switch (*status)` of exact.c branch by branch
  split
  · -- case QS_LP_OPTIMAL: the exact test on the converted vectors ...
    split
    · exact optimal_certified ‹_›
    · -- ... rejected: `QSexact_basis_status` in rationals, then the test once more
      split
      · exact errOut_certified
      · split
        · split
          · exact errOut_certified
          · split
            · exact optimal_certified ‹_›
            · trivial
        · trivial
  · split
    · -- case QS_LP_INFEASIBLE: the same ladder with the Farkas test
      split
      · split <;> trivial
      · split
        · exact infeasible_certified ‹_›
        · split
          · exact errOut_certified
          · split
            · split
              · exact errOut_certified
              · split
                · exact infeasible_certified ‹_›
                · trivial
            · trivial
    · -- case QS_LP_OBJ_LIMIT (error exit), default (next rung)
      split
      · exact errOut_certified
      · trivial

/-- how `solve` and `runRungs` go on after a pass through the `switch`: they return its outcome, with the
stage count filled in (which `Certified` does not look at), or continue -/
theorem StepRes.Certified.cont {P : ILP} {pinf ninf : Rat} {r : StepRes} (hr : r.Certified P pinf ninf) (n : Nat)
    {K : Carry → Outcome} (hK : ∀ c, (K c).Certified P pinf ninf) :
    (match r with | .done o => { o with stagesUsed := n } | .next c => K c).Certified P pinf ninf := by
  cases r with
  | done o => exact hr
  | next c => exact hK c

theorem runRungs_certified (P : ILP) (pinf ninf : Rat) (rungs : List Stage) (c : Carry) (k : Nat) :
    (runRungs P pinf ninf rungs c k).Certified P pinf ninf := by
  induction rungs generalizing c k with
  | nil =>
    -- ladder exhausted: a definitive status that passed no test is replaced by UNSOLVED
    intro _
    unfold runRungs
    constructor
    · intro hs
      split at hs
      · exact absurd hs.symm status_codes_distinct.2.1
      · exact absurd (Or.inl hs) ‹_›
    · intro hs
      split at hs
      · exact absurd hs.symm status_codes_distinct.2.2
      · exact absurd (Or.inr hs) ‹_›
  | cons st rest ih =>
    unfold runRungs
    dsimp only
    split
    · exact ih _ _
    · exact (handleStatus_certified P pinf ninf false st (rungHead c)).cont _ fun c' => ih c' _

/-- C01/C02, driver level: a successful OPTIMAL / INFEASIBLE carries the vectors an exact test accepted,
whatever the floating-point stages and the rational basis evaluation answer -/
theorem solve_certified (P : ILP) (pinf ninf : Rat) (dbl : Stage) (rungs : List Stage) :
    (solve P pinf ninf dbl rungs).Certified P pinf ninf := by
  unfold solve
  split
  · exact runRungs_certified _ _ _ _ _ _
  · exact (handleStatus_certified P pinf ninf true dbl {}).cont 1 fun c => runRungs_certified _ _ _ _ c _

theorem runRungs_stages (P : ILP) (pinf ninf : Rat) (rungs : List Stage) (c : Carry) (k : Nat) :
    (runRungs P pinf ninf rungs c k).stagesUsed ≤ k + rungs.length := by
  induction rungs generalizing c k with
  | nil => simp [runRungs]
  | cons st rest ih =>
    unfold runRungs
    simp only
    split
    · have := ih (rungHead c) (k + 1)
      rw [List.length_cons]
      omega
    · split
      · simp
      · rename_i c' _
        have := ih c' (k + 1)
        rw [List.length_cons]
        omega

/-- C03, ladder shape -/
theorem solve_stage_bound (P : ILP) (pinf ninf : Rat) (dbl : Stage) (rungs : List Stage) :
    (solve P pinf ninf dbl rungs).stagesUsed ≤ 1 + exactMaxIter := by
  unfold solve
  simp only
  have hl : (rungs.take exactMaxIter).length ≤ exactMaxIter := List.length_take_le _ _
  split
  · have := runRungs_stages P pinf ninf (rungs.take exactMaxIter) {} 1
    omega
  · split
    · simp
    · rename_i c _
      have := runRungs_stages P pinf ninf (rungs.take exactMaxIter) c 1
      omega

end Qsx
