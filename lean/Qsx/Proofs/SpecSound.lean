/-
Most branches of `Spec.step` are guarded updates `if !guard then (p, err) else (p', ok)`, some with two
guards in a row; `delNamedRows` / `delNamedCols` are `match`es on a lookup and `chgObjSense` tests
the good case first.  The two facts about the guarded shape from which C06 and C07 read off
atomicity and the exact guards.
-/
import Qsx.Model.Spec

set_option backward.split false

namespace Qsx.Spec

/-- one guard in front of an answer `x` that already has the property -/
theorem guard_err {c : Prop} [Decidable c] {p : Prob} {x : Prob × Res} (hx : x.2 = .err → x.1 = p) :
    (if c then (p, .err) else x).2 = .err → (if c then (p, .err) else x).1 = p := by
  split
  · exact fun _ => rfl
  · exact hx

/-- wherever `step` answers `err`, it answers `(p, err)` literally -/
theorem step_err (p : Prob) (op : Op) : (step p op).2 = .err → (step p op).1 = p := by
  cases op with
  | addCol | addRow | chgRange => exact guard_err (guard_err nofun)
  | delRows | delCols | chgCoef | chgObj | chgRhs | chgSenses | chgBounds => exact guard_err nofun
  | delNamedRows | delNamedCols =>
    rw [step]
    split
    · exact fun _ => rfl
    · nofun
  | chgObjSense =>
    simp only [step]
    split
    · nofun
    · split
      · nofun
      · exact fun _ => rfl

theorem guard_rejects {g : Bool} {p q : Prob} :
    (if (!g) = true then (p, Res.err) else (q, Res.ok)).2 = .err ↔ ¬ g = true := by
  cases g <;> simp

end Qsx.Spec
