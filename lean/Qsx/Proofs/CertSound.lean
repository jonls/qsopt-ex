/-
Weak duality for the internal LP.  Multiplying the rows `A z = b` by any `y` gives
`y·b = Σ_c (A_c·y) z_c` (`rows_identity`), so on the rows the objective is `y·b` plus the reduced-cost
terms `dz_c z_c` (`objv_split`).  Two points on the rows therefore differ in objective by
`Σ_c dz_c (z'_c - z_c)`, and `dominates_of_cs` is the one optimality argument of the development:
if every such term has the sign of the objective sense, `z` is at least as good as `z'`.
`cs_term` supplies the sign for a column that passes the complementary-slackness check `csOK`.
-/
import Qsx.Model.Sem
import Qsx.Proofs.Sums

namespace Qsx
open ILP

theorem entDot_eq_sumTo (m : Nat) (ent : List (Nat × Rat)) (y : Nat → Rat)
    (h : ∀ e ∈ ent, e.1 < m) : entDot ent y = sumTo m (fun i => entAt ent i * y i) := by
  induction ent with
  | nil => exact (sumTo_eq_zero fun i _ => zero_mul (y i)).symm
  | cons e l ih =>
    rw [List.forall_mem_cons] at h
    simp only [entDot_cons, entAt_cons, add_mul, ite_mul, zero_mul, sumTo_add,
      sumTo_ite_eq m e.1 h.1, ih h.2]

/-- `Σ_j (A_j·y) x_j = Σ_i y_i (A x)_i` -/
theorem exchange (P : ILP) (hw : P.WF) (x y : Nat → Rat) :
    sumTo P.ns (fun j => entDot (P.scol j).ent y * x j)
      = sumTo P.nrows (fun i => y i * structAct P x i) := by
  unfold structAct
  rw [← sumTo_assoc]
  refine sumTo_congr fun j hj => ?_
  rw [entDot_eq_sumTo P.nrows _ y (hw.sidx j hj)]
  simp only [mul_comm]

theorem lcol_entDot (P : ILP) (hw : P.WF) (y : Nat → Rat) (i : Nat) (hi : i < P.nrows) :
    entDot (P.lcol i).ent y = (P.lcol i).coef * y i := by
  obtain ⟨a, _, he⟩ := hw.lent i hi
  simp [Col.coef, he]

theorem coef_ne_zero {P : ILP} (hw : P.WF) {i : Nat} (hi : i < P.nrows) : (P.lcol i).coef ≠ 0 := by
  obtain ⟨a, ha, he⟩ := hw.lent i hi
  rwa [Col.coef, he]

/-- `y·b = Σ_c (A_c·y) z_c` -/
theorem rows_identity (P : ILP) (hw : P.WF) (x s y : Nat → Rat) (hr : P.RowsHold x s) :
    sumTo P.nrows (fun i => P.b i * y i)
      = sumTo P.ns (fun j => entDot (P.scol j).ent y * x j)
        + sumTo P.nrows (fun i => entDot (P.lcol i).ent y * s i) := by
  rw [exchange P hw x y, ← sumTo_add]
  refine sumTo_congr fun i hi => ?_
  rw [lcol_entDot P hw y i hi, ← hr i hi]
  ring

theorem objv_split (P : ILP) (hw : P.WF) (x s y : Nat → Rat) (hr : P.RowsHold x s) :
    P.objv x s = sumTo P.ns (fun j => dzOf (P.scol j) y * x j)
               + sumTo P.nrows (fun i => dzOf (P.lcol i) y * s i)
               + sumTo P.nrows (fun i => P.b i * y i) := by
  simp only [rows_identity P hw x s y hr, dzOf, sub_mul, sumTo_sub, objv]
  ring

/-- `objsense` as qsopt-ex stores it: `QS_MIN = 1`, `QS_MAX = -1` -/
def sense (isMin : Bool) : Rat := if isMin then 1 else -1

theorem posDir_iff {isMin : Bool} {d : Rat} : posDir isMin d = true ↔ 0 < sense isMin * d := by
  cases isMin <;> simp only [posDir, sense, Bool.false_eq_true, ↓reduceIte, decide_eq_true_eq,
    neg_mul, one_mul, neg_pos]

theorem negDir_iff {isMin : Bool} {d : Rat} : negDir isMin d = true ↔ sense isMin * d < 0 := by
  cases isMin <;> simp only [negDir, sense, Bool.false_eq_true, ↓reduceIte, decide_eq_true_eq,
    neg_mul, one_mul, neg_lt_zero]

/-- on the `if` that both `ILP.better` and `LP.better` unfold to (use: `rw [better, better_iff]`) -/
theorem better_iff {isMin : Bool} {v w : Rat} :
    (if isMin then v ≤ w else w ≤ v) ↔ 0 ≤ sense isMin * (w - v) := by
  cases isMin <;> simp only [sense, Bool.false_eq_true, ↓reduceIte, neg_mul, one_mul, neg_sub,
    sub_nonneg]

theorem better_antisymm {isMin : Bool} {v w : Rat} (h : if isMin then v ≤ w else w ≤ v)
    (h' : if isMin then w ≤ v else v ≤ w) : v = w := by
  cases isMin
  exacts [le_antisymm h' h, le_antisymm h h']

theorem csOK_iff {isMin : Bool} {c : Col} {v d : Rat} :
    csOK isMin c v d = true ↔
      (0 < sense isMin * d → v = c.lo) ∧ (sense isMin * d < 0 → v = c.up) := by
  have key : ∀ {e b : Rat}, e * d ≠ 0 → ((v - b) * d = 0 ↔ v = b) := fun h => by
    rw [mul_eq_zero, sub_eq_zero, or_iff_left (right_ne_zero_of_mul h)]
  simp only [csOK, Bool.and_eq_true, Bool.or_eq_true, Bool.not_eq_true', decide_eq_true_eq,
    ← Bool.not_eq_true, ← imp_iff_not_or, posDir_iff, negDir_iff]
  exact and_congr (imp_congr_right fun h => key h.ne') (imp_congr_right fun h => key h.ne)

/-- the sign of one reduced-cost term: `v` sits at the bound `e` leans on, `v'` respects it -/
theorem lean_term {e v v' lo up : Rat} (hv : (0 < e → v = lo) ∧ (e < 0 → v = up))
    (hv' : (0 < e → lo ≤ v') ∧ (e < 0 → v' ≤ up)) : 0 ≤ e * (v' - v) := by
  rcases lt_trichotomy e 0 with he | he | he
  · exact mul_nonneg_of_nonpos_of_nonpos he.le (sub_nonpos.mpr (hv.2 he ▸ hv'.2 he))
  · rw [he, zero_mul]
  · exact mul_nonneg he.le (sub_nonneg.mpr (hv.1 he ▸ hv'.1 he))

theorem cs_term {isMin : Bool} {c : Col} {v d v' : Rat} (hcs : csOK isMin c v d = true)
    (hv' : (posDir isMin d = true → c.lo ≤ v') ∧ (negDir isMin d = true → v' ≤ c.up)) :
    0 ≤ sense isMin * d * (v' - v) :=
  lean_term (csOK_iff.mp hcs) (by rwa [posDir_iff, negDir_iff] at hv')

theorem dominates_of_cs {P : ILP} (hw : P.WF) {x s x' s' : Nat → Rat} (y : Nat → Rat)
    (hr : P.RowsHold x s) (hr' : P.RowsHold x' s')
    (hS : ∀ j, j < P.ns → 0 ≤ sense P.isMin * dzOf (P.scol j) y * (x' j - x j))
    (hL : ∀ i, i < P.nrows → 0 ≤ sense P.isMin * dzOf (P.lcol i) y * (s' i - s i)) :
    P.better (P.objv x s) (P.objv x' s') := by
  have hS := sumTo_nonneg hS
  have hL := sumTo_nonneg hL
  simp only [mul_sub, sumTo_sub, mul_assoc, sumTo_mul_left] at hS hL
  rw [better, better_iff, objv_split P hw x s y hr, objv_split P hw x' s' y hr']
  linarith

/-- the column check of `noActiveInfinite` / `certCheck`: a bound that is absent in the ∞-reading is not
leaned on -/
theorem leans_of_inf {isMin : Bool} {c : Col} {d pinf ninf v' : Rat}
    (hn : (!posDir isMin d || c.lo != ninf) = true ∧ (!negDir isMin d || c.up != pinf) = true)
    (hlo : c.lo ≠ ninf → c.lo ≤ v') (hup : c.up ≠ pinf → v' ≤ c.up) :
    (posDir isMin d = true → c.lo ≤ v') ∧ (negDir isMin d = true → v' ≤ c.up) := by
  simp only [Bool.or_eq_true, Bool.not_eq_true', bne_iff_ne, ← Bool.not_eq_true,
    ← imp_iff_not_or] at hn
  exact ⟨fun h => hlo (hn.1 h), fun h => hup (hn.2 h)⟩

section
variable {P : ILP} (hw : P.WF) {x s : Nat → Rat} (y : Nat → Rat) (hr : P.RowsHold x s)
  (csS : ∀ j, j < P.ns → csOK P.isMin (P.scol j) (x j) (dzOf (P.scol j) y) = true)
  (csL : ∀ i, i < P.nrows → csOK P.isMin (P.lcol i) (s i) (dzOf (P.lcol i) y) = true)
include hw hr csS csL

theorem cs_dominates_box {x' s' : Nat → Rat} (hf : P.BoxFeasible x' s') :
    P.better (P.objv x s) (P.objv x' s') :=
  dominates_of_cs hw y hr hf.rows
    (fun j hj => cs_term (csS j hj) ⟨fun _ => hf.xlo j hj, fun _ => hf.xup j hj⟩)
    (fun i hi => cs_term (csL i hi) ⟨fun _ => hf.slo i hi, fun _ => hf.sup i hi⟩)

theorem cs_dominates_inf {pinf ninf : Rat} {x' s' : Nat → Rat}
    (hnS : ∀ j, j < P.ns →
      (!posDir P.isMin (dzOf (P.scol j) y) || (P.scol j).lo != ninf) = true ∧
      (!negDir P.isMin (dzOf (P.scol j) y) || (P.scol j).up != pinf) = true)
    (hnL : ∀ i, i < P.nrows →
      (!posDir P.isMin (dzOf (P.lcol i) y) || (P.lcol i).lo != ninf) = true ∧
      (!negDir P.isMin (dzOf (P.lcol i) y) || (P.lcol i).up != pinf) = true)
    (hf : P.Feasible pinf ninf x' s') : P.better (P.objv x s) (P.objv x' s') :=
  dominates_of_cs hw y hr hf.rows
    (fun j hj => cs_term (csS j hj) (leans_of_inf (hnS j hj) (hf.xlo j hj) (hf.xup j hj)))
    (fun i hi => cs_term (csL i hi) (leans_of_inf (hnL i hi) (hf.slo i hi) (hf.sup i hi)))

end

end Qsx
