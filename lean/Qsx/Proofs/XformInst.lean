/-
Each transformation of `Qsx.Xform` is a reformulation (`Sim`).  All of them are given by a change of
coordinates of the points (the identity for six of the nine) under which feasibility corresponds
row by row and column by column; the transformed LPs are tables (`tabA`) or pushed arrays, and
`feasible_iff` with `allIdx_tabA` / `allIdx_push` turns the claim into one statement per row and
per column.
-/
import Qsx.Proofs.XformSound

set_option backward.split false

namespace Qsx.Xform
open Qsx LP

-- `rowHolds` is opened by `simp only [rowHolds]` alone; left reducible, the elaborator evaluates its
-- character comparisons on stuck terms each time it meets a row built by `relaxRow` or `scaleRowOf`
attribute [local irreducible] LP.rowHolds

section
variable {L L' : LP} {pinf ninf a b : Rat}

/-- a reformulation from a change of coordinates `φ` onto the points of `L'` (`ψ` is a right inverse)
under which feasibility corresponds and the objective becomes `a·value + b` -/
theorem Sim.of_surj (φ ψ : (Nat → Rat) → Nat → Rat) (hψ : ∀ x', φ (ψ x') = x') (ha : a ≠ 0)
    (hs : L'.isMin = if 0 < a then L.isMin else !L.isMin)
    (hf : ∀ x, L'.Feasible pinf ninf (φ x) ↔ L.Feasible pinf ninf x)
    (ho : ∀ x, L'.objv (φ x) = a * L.objv x + b) : Sim L L' pinf ninf a b :=
  ⟨ha, hs, fun x hx => ⟨φ x, (hf x).mpr hx, ho x⟩,
    fun x' hx' => ⟨ψ x', (hf _).mp (by rwa [hψ]), by rw [← ho, hψ]⟩⟩

theorem Sim.of_subst (φ ψ : (Nat → Rat) → Nat → Rat) (hψ : ∀ x', φ (ψ x') = x') (hs : L'.isMin = L.isMin)
    (hf : ∀ x, L'.Feasible pinf ninf (φ x) ↔ L.Feasible pinf ninf x)
    (ho : ∀ x, L'.objv (φ x) = L.objv x + b) : Sim L L' pinf ninf 1 b :=
  .of_surj φ ψ hψ one_ne_zero (by rw [hs, if_pos one_pos]) hf fun x => by rw [ho, one_mul]

theorem Sim.of_rows (hs : L'.isMin = L.isMin) (hc : L'.cols = L.cols)
    (hf : ∀ x, L'.Feasible pinf ninf x ↔ L.Feasible pinf ninf x) : Sim L L' pinf ninf 1 0 :=
  .of_subst id id (fun _ => rfl) hs hf fun x => by
    show L'.objv x = L.objv x + 0
    unfold LP.objv LP.nc LP.col
    rw [add_zero, hc]

end

theorem size_tabA {α : Type} (n : Nat) (f : Nat → α) : (tabA n f).size = n := by simp [tabA]

theorem getD_tabA {α : Type} (n : Nat) (f : Nat → α) (k : Nat) (d : α) :
    (tabA n f).getD k d = if k < n then f k else d := by
  unfold tabA
  split <;> simp [Array.getD, *]

def AllIdx {α : Type} [Inhabited α] (a : Array α) (P : Nat → α → Prop) : Prop :=
  ∀ i, i < a.size → P i (a.getD i default)

theorem allIdx_tabA {α : Type} [Inhabited α] (n : Nat) (g : Nat → α) (P : Nat → α → Prop) :
    AllIdx (tabA n g) P ↔ ∀ i, i < n → P i (g i) := by
  unfold AllIdx
  rw [size_tabA]
  exact forall₂_congr fun i hi => by rw [getD_tabA, if_pos hi]

theorem allIdx_push {α : Type} [Inhabited α] (a : Array α) (r : α) (P : Nat → α → Prop) :
    AllIdx (a.push r) P ↔ AllIdx a P ∧ P a.size r := by
  unfold AllIdx
  rw [Array.size_push, Nat.forall_lt_succ_right]
  refine and_congr (forall₂_congr fun i hi => ?_) ?_
  · rw [Array.getD_eq_getD_getElem?, Array.getElem?_push, if_neg hi.ne, ← Array.getD_eq_getD_getElem?]
  · rw [Array.getD_eq_getD_getElem?, Array.getElem?_push, if_pos rfl, Option.getD_some]

variable (L : LP) (pinf ninf : Rat)

/-- a column's bounds at the value `v`; `pinf`/`ninf` encode an absent bound -/
def colHolds (pinf ninf : Rat) (c : VCol) (v : Rat) : Prop :=
  (c.lo ≠ ninf → c.lo ≤ v) ∧ (c.up ≠ pinf → v ≤ c.up)

theorem feasible_iff (x : Nat → Rat) :
    L.Feasible pinf ninf x ↔ AllIdx L.rows (fun _ r => rowHolds r (entDot r.ent x)) ∧
      AllIdx L.cols (fun j c => colHolds pinf ninf c (x j)) :=
  ⟨fun h => ⟨h.rows, fun j hj => ⟨h.lo j hj, h.up j hj⟩⟩,
   fun h => ⟨h.1, fun j hj => (h.2 j hj).1, fun j hj => (h.2 j hj).2⟩⟩

theorem objv_tabA (m : Bool) (n : Nat) (g : Nat → VCol) (rows : Array Row) (x : Nat → Rat) :
    LP.objv { isMin := m, cols := tabA n g, rows := rows } x = sumTo n fun j => (g j).obj * x j := by
  unfold LP.objv LP.nc LP.col
  simp only [size_tabA]
  exact sumTo_congr fun j hj => by rw [getD_tabA, if_pos hj]

theorem negObj_sim : Sim L (negObj L) pinf ninf (-1) 0 := by
  refine .of_surj id id (fun _ => rfl) (by norm_num) (if_neg (by norm_num)).symm (fun x => ?_) (fun x => ?_)
  · -- the bounds of a column do not mention its `obj`
    simp only [feasible_iff, negObj, allIdx_tabA]
    exact Iff.rfl
  · rw [negObj, objv_tabA, add_zero, LP.objv, ← sumTo_mul_left]
    exact sumTo_congr fun j _ => by rw [neg_mul, neg_one_mul]; rfl

/-- the four kinds of row, in the order in which `rowHolds` and the transformations test for them -/
theorem sense_cases (r : Row) :
    r.sense = 'L' ∨ r.sense = 'G' ∨ r.sense = 'E' ∨ (r.sense ≠ 'L' ∧ r.sense ≠ 'G' ∧ r.sense ≠ 'E') :=
  (Decidable.em _).imp_right fun hL => (Decidable.em _).imp_right fun hG =>
    (Decidable.em _).imp_right fun hE => ⟨hL, hG, hE⟩

theorem entDot_scaleEnt (t : Rat) (ent : List (Nat × Rat)) (x : Nat → Rat) :
    entDot (scaleEnt t ent) x = t * entDot ent x := by
  induction ent with
  | nil => exact (mul_zero t).symm
  | cons e l ih =>
    rw [entDot_cons, mul_add, ← ih, ← mul_assoc]
    rfl

theorem scaleRowOf_ent (t : Rat) (r : Row) : (scaleRowOf t r).ent = scaleEnt t r.ent := by
  simp only [scaleRowOf, apply_ite Row.ent, ite_self]

theorem scaleRowOf_holds {t : Rat} (ht : t ≠ 0) (r : Row) (v : Rat) :
    rowHolds (scaleRowOf t r) (t * v) ↔ rowHolds r v := by
  rcases ht.lt_or_gt with hn | hp
  · -- a negative factor reverses each inequality: `≤` and `≥` swap, a range is mirrored
    have hle : ∀ u w : Rat, t * u ≤ t * w ↔ w ≤ u := fun u w => mul_le_mul_left_of_neg hn
    have hR : t * (r.rhs + r.range) + -(t * r.range) = t * r.rhs := by rw [mul_add, add_neg_cancel_right]
    rcases sense_cases r with h | h | h | ⟨hL, hG, hE⟩
    · simp only [scaleRowOf, rowHolds, if_neg hn.not_gt, h, hle, Char.reduceEq, ↓reduceIte]
    · simp only [scaleRowOf, rowHolds, if_neg hn.not_gt, h, hle, Char.reduceEq, ↓reduceIte]
    · simp only [scaleRowOf, rowHolds, if_neg hn.not_gt, h, mul_right_inj' ht, Char.reduceEq, ↓reduceIte]
    · simp only [scaleRowOf, rowHolds, if_neg hn.not_gt, hL, hG, hE, hR, hle, ↓reduceIte, and_comm]
  · simp only [scaleRowOf, if_pos hp, rowHolds, ← mul_add, mul_le_mul_iff_right₀ hp, mul_right_inj' ht]

theorem scaleRow_sim (i : Nat) (t : Rat) (ht : t ≠ 0) :
    Sim L (scaleRow L i t) pinf ninf 1 0 := by
  refine .of_rows rfl rfl fun x => ?_
  simp only [feasible_iff, scaleRow, mapRows, allIdx_tabA]
  refine and_congr_left' (forall₂_congr fun k _ => ?_)
  split
  · rw [scaleRowOf_ent, entDot_scaleEnt]
    exact scaleRowOf_holds ht _ _
  · rfl

theorem appendRow_feasible (r : Row) (x : Nat → Rat) :
    (appendRow L r).Feasible pinf ninf x ↔ L.Feasible pinf ninf x ∧ rowHolds r (entDot r.ent x) := by
  simp only [feasible_iff, appendRow, allIdx_push, and_right_comm]

theorem appendRow_sim (r : Row)
    (himp : ∀ x, L.Feasible pinf ninf x → rowHolds r (entDot r.ent x)) :
    Sim L (appendRow L r) pinf ninf 1 0 :=
  .of_rows rfl rfl fun x => (appendRow_feasible L pinf ninf r x).trans (and_iff_left_of_imp (himp x))

theorem dupRow_sim (i : Nat) (hi : i < L.nr) : Sim L (dupRow L i) pinf ninf 1 0 :=
  appendRow_sim L pinf ninf (L.row i) fun _ hx => hx.rows i hi

theorem relaxRow_ent (r : Row) (t : Rat) : (relaxRow r t).ent = r.ent := by
  simp only [relaxRow, apply_ite Row.ent, ite_self]

theorem relaxRow_holds {t : Rat} (ht : 0 ≤ t) {r : Row} {v : Rat} (h : rowHolds r v) :
    rowHolds (relaxRow r t) v := by
  rcases sense_cases r with s | s | s | ⟨hL, hG, hE⟩
  · simp only [relaxRow, rowHolds, s, ↓reduceIte] at h ⊢
    exact h.trans (le_add_of_nonneg_right ht)
  · simp only [relaxRow, rowHolds, s, Char.reduceEq, ↓reduceIte] at h ⊢
    exact (sub_le_self _ ht).trans h
  · simp only [relaxRow, rowHolds, s, Char.reduceEq, ↓reduceIte] at h ⊢
    exact h.le.trans (le_add_of_nonneg_right ht)
  · simp only [relaxRow, rowHolds, hL, hG, hE, ↓reduceIte] at h ⊢
    exact ⟨(sub_le_self _ ht).trans h.1, by linarith [h.2]⟩

theorem addRedundant_sim (i : Nat) (t : Rat) (hi : i < L.nr) (ht : 0 ≤ t) :
    Sim L (addRedundant L i t) pinf ninf 1 0 :=
  appendRow_sim L pinf ninf _ fun x hx => by rw [relaxRow_ent]; exact relaxRow_holds ht (hx.rows i hi)

theorem splitEq_sim (i : Nat) (hi : i < L.nr) : Sim L (splitEq L i) pinf ninf 1 0 := by
  unfold splitEq
  split
  next hE =>
    have hsplit : ∀ v, rowHolds { (L.row i) with sense := 'L' } v ∧ rowHolds { (L.row i) with sense := 'G' } v ↔
        rowHolds (L.row i) v := fun v => by
      simp only [rowHolds, hE, Char.reduceEq, ↓reduceIte]
      exact le_antisymm_iff.symm
    refine .of_rows rfl rfl fun x => ?_
    simp only [feasible_iff, appendRow, mapRows, allIdx_push, allIdx_tabA]
    refine and_congr_left' ⟨fun ⟨h, hg⟩ k hk => ?_,
      fun h => ⟨fun k hk => ?_, ((hsplit _).mpr (h i hi)).2⟩⟩
    · have hk' := h k hk
      split at hk'
      next hki =>
        subst hki
        exact (hsplit _).mp ⟨hk', hg⟩
      next => exact hk'
    · split
      next hki =>
        subst hki
        exact ((hsplit _).mpr (h k hk)).1
      next => exact h k hk
  next => exact Sim.refl L pinf ninf

def movePt (j : Nat) (g : Rat → Rat) (x : Nat → Rat) : Nat → Rat := fun k => if k = j then g (x k) else x k

theorem movePt_inv (j : Nat) {g g' : Rat → Rat} (h : ∀ v, g (g' v) = v) (x : Nat → Rat) :
    movePt j g (movePt j g' x) = x := by
  funext k
  unfold movePt
  split
  · exact h _
  · rfl

/-- a bound `b` (absent when equal to `inf`) rewritten as `shiftBound` and `scaleBound` do, by a `g` that
moves no finite bound onto `inf` -/
theorem moved_bound {inf b : Rat} {g : Rat → Rat} (h : b ≠ inf → g b ≠ inf) (P' P : Rat → Prop)
    (hP : P' (g b) ↔ P b) :
    ((if b = inf then inf else g b) ≠ inf → P' (if b = inf then inf else g b)) ↔ (b ≠ inf → P b) := by
  by_cases hb : b = inf
  · rw [if_pos hb]
    exact ⟨fun _ h' => absurd hb h', fun _ h' => absurd rfl h'⟩
  · rw [if_neg hb]
    exact ⟨fun h' _ => hP.mp (h' (h hb)), fun h' _ => hP.mpr (h' hb)⟩

/-- column `j` with both bounds sent through an order isomorphism `g`, at the point moved by `g` (the record
is what `shiftVar` / `scaleVar` build, up to unfolding `shiftBound` / `scaleBound`; `g` is found from `hg`) -/
theorem colHolds_movePt {pinf ninf : Rat} {g : Rat → Rat} (hg : ∀ u w, g u ≤ g w ↔ u ≤ w) {L : LP} {j : Nat}
    (hlo : (L.col j).lo ≠ ninf → g (L.col j).lo ≠ ninf) (hup : (L.col j).up ≠ pinf → g (L.col j).up ≠ pinf)
    (o : Rat) (x : Nat → Rat) (k : Nat) :
    colHolds pinf ninf
      (if k = j then { obj := o, lo := if (L.col k).lo = ninf then ninf else g (L.col k).lo,
                       up := if (L.col k).up = pinf then pinf else g (L.col k).up } else L.col k)
      (movePt j g x k) ↔ colHolds pinf ninf (L.col k) (x k) := by
  unfold movePt
  split
  next h =>
    subst h
    exact and_congr (moved_bound hlo (· ≤ g (x k)) (· ≤ x k) (hg _ _))
      (moved_bound hup (g (x k) ≤ ·) (x k ≤ ·) (hg _ _))
  next => rfl

theorem entDot_shift (ent : List (Nat × Rat)) (j : Nat) (d : Rat) (x : Nat → Rat) :
    entDot ent (movePt j (· - d) x) = entDot ent x - d * entAt ent j := by
  induction ent with
  | nil => simp only [entDot_nil, entAt_nil, mul_zero, sub_zero]
  | cons e l ih =>
    rw [entDot_cons, entDot_cons, entAt_cons, ih]
    unfold movePt
    split <;> ring

theorem rowHolds_shift (r : Row) (c v : Rat) :
    rowHolds { r with rhs := r.rhs - c } (v - c) ↔ rowHolds r v := by
  simp only [rowHolds, sub_add_eq_add_sub, sub_le_sub_iff_right, sub_left_inj]

theorem shiftVar_sim (j : Nat) (d : Rat) (hj : j < L.nc)
    (hlo : (L.col j).lo ≠ ninf → (L.col j).lo - d ≠ ninf) (hup : (L.col j).up ≠ pinf → (L.col j).up - d ≠ pinf) :
    Sim L (shiftVar L pinf ninf j d) pinf ninf 1 (-((L.col j).obj * d)) := by
  refine .of_subst (movePt j (· - d)) (movePt j (· + d)) (movePt_inv j fun v => add_sub_cancel_right v d) rfl
    (fun x => ?_) (fun x => ?_)
  · simp only [feasible_iff, shiftVar, allIdx_tabA]
    refine and_congr (forall₂_congr fun i _ => ?_) (forall₂_congr fun k _ => ?_)
    · rw [entDot_shift]
      exact rowHolds_shift _ _ _
    · exact colHolds_movePt (fun _ _ => sub_le_sub_iff_right d) hlo hup _ x k
  · -- the two objectives differ in term `j` only
    rw [shiftVar, objv_tabA, LP.objv,
      sumTo_eq_add_diff hj (g := fun k => (L.col k).obj * x k) fun k hk => by simp only [movePt, if_neg hk]]
    simp only [movePt, ↓reduceIte]
    ring

/-- entries rewritten by `g`, read at a point `y` that gives the same products term by term -/
theorem entDot_map (g : Nat × Rat → Nat × Rat) (ent : List (Nat × Rat)) (x y : Nat → Rat)
    (h : ∀ e ∈ ent, (g e).2 * y (g e).1 = e.2 * x e.1) : entDot (ent.map g) y = entDot ent x := by
  induction ent with
  | nil => rfl
  | cons e l ih =>
    rw [List.map_cons, entDot_cons, entDot_cons, h e List.mem_cons_self,
      ih fun e' he' => h e' (List.mem_cons_of_mem _ he')]

theorem rowHolds_ent (r : Row) (ent : List (Nat × Rat)) (v : Rat) :
    rowHolds { r with ent := ent } v ↔ rowHolds r v := by
  simp only [rowHolds]

theorem scale_cancel {m : Rat} (hm : m ≠ 0) (c v : Rat) : m * c * (v / m) = c * v := by
  rw [mul_right_comm, mul_div_cancel₀ _ hm, mul_comm]

theorem scaleVar_sim (j : Nat) (m : Rat) (hm : 0 < m)
    (hlo : (L.col j).lo ≠ ninf → (L.col j).lo / m ≠ ninf) (hup : (L.col j).up ≠ pinf → (L.col j).up / m ≠ pinf) :
    Sim L (scaleVar L pinf ninf j m) pinf ninf 1 0 := by
  refine .of_subst (movePt j (· / m)) (movePt j (· * m)) (movePt_inv j fun v => mul_div_cancel_right₀ v hm.ne') rfl
    (fun x => ?_) (fun x => ?_)
  · simp only [feasible_iff, scaleVar, allIdx_tabA]
    refine and_congr (forall₂_congr fun i _ => ?_) (forall₂_congr fun k _ => ?_)
    · rw [entDot_map _ _ x]
      · exact rowHolds_ent _ _ _
      · intro e _
        unfold movePt
        split
        · exact scale_cancel hm.ne' _ _
        · rfl
    · exact colHolds_movePt (fun _ _ => div_le_div_iff_of_pos_right hm) hlo hup _ x k
  · rw [scaleVar, objv_tabA, add_zero]
    refine sumTo_congr fun k _ => ?_
    unfold movePt
    split
    · exact scale_cancel hm.ne' _ _
    · rfl

theorem forall_lt_perm {n : Nat} {σ : Nat → Nat} (hin : ∀ k, k < n → σ k < n)
    (honto : ∀ i, i < n → ∃ k, k < n ∧ σ k = i) (P : Nat → Prop) :
    (∀ k, k < n → P (σ k)) ↔ ∀ i, i < n → P i :=
  ⟨fun h i hi => by obtain ⟨k, hk, rfl⟩ := honto i hi; exact h k hk, fun h k hk => h _ (hin k hk)⟩

theorem permRows_sim (σ : Array Nat)
    (hin : ∀ k, k < L.nr → nget σ k < L.nr) (honto : ∀ i, i < L.nr → ∃ k, k < L.nr ∧ nget σ k = i) :
    Sim L (permRows L σ) pinf ninf 1 0 := by
  refine .of_rows rfl rfl fun x => ?_
  simp only [feasible_iff, permRows, allIdx_tabA]
  exact and_congr_left' (forall_lt_perm hin honto fun i => rowHolds (L.row i) (entDot (L.row i).ent x))

/-- `σ` on `[0,n)`, the identity beyond: a permutation of `[0,n)` becomes one of all coordinates -/
def extId (n : Nat) (σ : Nat → Nat) (k : Nat) : Nat := if k < n then σ k else k

theorem extId_lt {n : Nat} (σ : Nat → Nat) {k : Nat} (h : k < n) : extId n σ k = σ k := if_pos h

theorem extId_inv {n : Nat} {σ τ : Nat → Nat} (h : ∀ k, k < n → σ k < n ∧ τ (σ k) = k) (k : Nat) :
    extId n τ (extId n σ k) = k := by
  by_cases hk : k < n
  · rw [extId_lt σ hk, extId_lt τ (h k hk).1, (h k hk).2]
  · unfold extId
    rw [if_neg hk, if_neg hk]

theorem permCols_sim (σ : Array Nat)
    (h1 : ∀ k, k < L.nc → nget σ k < L.nc ∧ invAt σ (nget σ k) = k)
    (h2 : ∀ j, j < L.nc → invAt σ j < L.nc ∧ nget σ (invAt σ j) = j)
    (hent : ∀ i, i < L.nr → ∀ e ∈ (L.row i).ent, e.1 < L.nc) :
    Sim L (permCols L σ) pinf ninf 1 0 := by
  refine .of_subst (fun x k => x (extId L.nc (nget σ) k)) (fun x' j => x' (extId L.nc (invAt σ) j))
    (fun x' => funext fun k => congrArg x' (extId_inv h1 k)) rfl (fun x => ?_) (fun x => ?_)
  · simp only [feasible_iff, permCols, allIdx_tabA]
    refine and_congr (forall₂_congr fun i hi => ?_) ?_
    · rw [entDot_map _ _ x]
      · exact rowHolds_ent _ _ _
      · intro e he
        have he' := h2 e.1 (hent i hi e he)
        simp only [extId_lt _ he'.1, he'.2]
    · refine (forall₂_congr fun k hk => ?_).trans
        (forall_lt_perm (fun k hk => (h1 k hk).1) (fun j hj => ⟨_, h2 j hj⟩) fun j => colHolds pinf ninf (L.col j) (x j))
      rw [extId_lt _ hk]
  · rw [permCols, objv_tabA, add_zero]
    refine (sumTo_congr fun k hk => ?_).trans (sumTo_perm L.nc (nget σ) (invAt σ) h1 h2 fun j => (L.col j).obj * x j)
    rw [extId_lt _ hk]

end Qsx.Xform
