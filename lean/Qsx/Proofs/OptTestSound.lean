import Qsx.Proofs.CertSound

set_option backward.split false

namespace Qsx
open ILP

theorem clip_mem {v lo up : Rat} (h : lo ≤ up) : lo ≤ clip v lo up ∧ clip v lo up ≤ up := by
  unfold clip
  split_ifs with h1 h2
  exacts [⟨h, le_rfl⟩, ⟨le_rfl, h⟩, ⟨not_lt.mp h2, not_lt.mp h1⟩]

theorem valByStat_mem {c : Col} {u l : Bool} {v : Rat} (h : c.lo ≤ c.up) :
    c.lo ≤ valByStat c u l v ∧ valByStat c u l v ≤ c.up := by
  unfold valByStat
  split_ifs
  exacts [⟨h, le_rfl⟩, ⟨le_rfl, h⟩, clip_mem h]

/-- one link of the chain of checks in `optReason` -/
theorem ite_eq_ok {p : Prop} [Decidable p] {r r' : OptReason} (hr : r ≠ .ok) :
    (if p then r else r') = .ok ↔ ¬ p ∧ r' = .ok := by
  split <;> simp [*]

/-- what an accepting run of `optimalTest` has checked, about the point `(xArr, sArr)` it builds (the
checks on the basis statuses and on the logicals' own bounds apart, which no theorem uses) -/
structure OptFacts (P : ILP) (cs rs : Array Nat) (ps ds : Array Rat) : Prop where
  sbox : ∀ j, j < P.ns → (P.scol j).lo ≤ (P.scol j).up
  roweq : ∀ i, i < P.nrows → rowEqOK P rs ps (rget (xArr P cs ps)) i = true
  slo : ∀ i, i < P.nrows → (P.lcol i).lo ≤ rget (sArr P cs rs ps) i
  sup : ∀ i, i < P.nrows → rget (sArr P cs rs ps) i ≤ (P.lcol i).up
  csS : ∀ j, j < P.ns → csOK P.isMin (P.scol j) (rget (xArr P cs ps) j) (dzOf (P.scol j) (rget ds)) = true
  csL : ∀ i, i < P.nrows → csOK P.isMin (P.lcol i) (rget (sArr P cs rs ps) i) (dzOf (P.lcol i) (rget ds)) = true
  hobj : pObj P (xArr P cs ps) (sArr P cs rs ps) = dObj P ds (dzSArr P ds) (dzLArr P ds)

theorem optimalTest_facts {P : ILP} {cs rs : Array Nat} {ps ds : Array Rat} {c : Cache}
    (h : optimalTest P cs rs ps ds = some c) : c = optCache P cs rs ps ds ∧ OptFacts P cs rs ps ds := by
  unfold optimalTest at h
  split at h
  case isFalse => cases h
  case isTrue hr =>
    cases h
    simp only [optReason, ite_eq_ok, ne_eq, reduceCtorEq, not_false_eq_true, Bool.not_eq_true',
      Bool.not_eq_false, allTo_iff, decide_eq_true_eq, Decidable.not_not, and_true] at hr
    obtain ⟨-, h2, -, -, -, h6, h7, h8, h9, h10, h11⟩ := hr
    refine ⟨rfl, h2, h6, h7, h8, fun j hj => ?_, fun i hi => ?_, h11⟩
    · have := h9 j hj
      rwa [dzSArr, rget_tab hj] at this
    · have := h10 i hi
      rwa [dzLArr, rget_tab hi] at this

/-- the value given to logical `i` satisfies row `i`: recomputed from the row when basic, checked
against it otherwise -/
theorem row_slackVal {P : ILP} {rs : Array Nat} {ps : Array Rat} {x : Nat → Rat} {i : Nat}
    (hc : (P.lcol i).coef ≠ 0) (hr : rowEqOK P rs ps x i = true) :
    structAct P x i + (P.lcol i).coef * slackVal P rs ps x i = P.b i := by
  unfold slackVal
  by_cases hb : (nget rs i == Gen.rstatBasic) = true
  · rw [if_pos hb, mul_div_cancel₀ _ hc, add_sub_cancel]
  · simp only [rowEqOK, hb, Bool.false_or, decide_eq_true_eq] at hr
    rw [if_neg hb, mul_comm, hr, add_sub_cancel]

theorem optimalTest_point {P : ILP} {cs rs : Array Nat} {ps ds : Array Rat} {c : Cache}
    (hw : P.WF) (h : optimalTest P cs rs ps ds = some c) :
    P.BoxFeasible (rget c.x) (rget c.slack) ∧
    c.val = P.objv (rget c.x) (rget c.slack) ∧
    c.val = dObj P ds (dzSArr P ds) (dzLArr P ds) := by
  obtain ⟨rfl, F⟩ := optimalTest_facts h
  have hxj : ∀ j, j < P.ns → rget (xArr P cs ps) j = xStruct P cs ps j := fun j hj => rget_tab hj
  have hsi : ∀ i, i < P.nrows → rget (sArr P cs rs ps) i = slackVal P rs ps (rget (xArr P cs ps)) i :=
    fun i hi => rget_tab hi
  exact ⟨⟨fun i hi => hsi i hi ▸ row_slackVal (coef_ne_zero hw hi) (F.roweq i hi),
    fun j hj => hxj j hj ▸ (valByStat_mem (F.sbox j hj)).1,
    fun j hj => hxj j hj ▸ (valByStat_mem (F.sbox j hj)).2, F.slo, F.sup⟩, rfl, F.hobj⟩

theorem optimalTest_sound_box {P : ILP} {cs rs : Array Nat} {ps ds : Array Rat} {c : Cache}
    (hw : P.WF) (h : optimalTest P cs rs ps ds = some c) :
    P.BoxFeasible (rget c.x) (rget c.slack) ∧
    c.val = P.objv (rget c.x) (rget c.slack) ∧
    c.val = dObj P ds (dzSArr P ds) (dzLArr P ds) ∧
    ∀ x' s', P.BoxFeasible x' s' → P.better c.val (P.objv x' s') := by
  obtain ⟨h1, h2, h3⟩ := optimalTest_point hw h
  obtain ⟨rfl, F⟩ := optimalTest_facts h
  exact ⟨h1, h2, h3, fun x' s' hf => h2 ▸ cs_dominates_box hw (rget ds) h1.rows F.csS F.csL hf⟩

/-- no non-zero reduced cost leans on a bound that encodes ±infinity (`exact.c` does not check this;
see DESIGN F8) -/
def noActiveInfinite (P : ILP) (pinf ninf : Rat) (ds : Array Rat) : Bool :=
  (allTo P.ns fun j =>
    (!posDir P.isMin (dzOf (P.scol j) (rget ds)) || (P.scol j).lo != ninf) &&
    (!negDir P.isMin (dzOf (P.scol j) (rget ds)) || (P.scol j).up != pinf)) &&
  (allTo P.nrows fun i =>
    (!posDir P.isMin (dzOf (P.lcol i) (rget ds)) || (P.lcol i).lo != ninf) &&
    (!negDir P.isMin (dzOf (P.lcol i) (rget ds)) || (P.lcol i).up != pinf))

theorem ILP.BoxFeasible.toFeasible {P : ILP} {x s : Nat → Rat} (pinf ninf : Rat)
    (h : P.BoxFeasible x s) : P.Feasible pinf ninf x s :=
  ⟨h.rows, fun j hj _ => h.xlo j hj, fun j hj _ => h.xup j hj,
   fun i hi _ => h.slo i hi, fun i hi _ => h.sup i hi⟩

theorem optimalTest_sound_inf {P : ILP} {cs rs : Array Nat} {ps ds : Array Rat} {c : Cache}
    {pinf ninf : Rat} (hw : P.WF) (h : optimalTest P cs rs ps ds = some c)
    (hn : noActiveInfinite P pinf ninf ds = true) :
    P.Feasible pinf ninf (rget c.x) (rget c.slack) ∧
    c.val = P.objv (rget c.x) (rget c.slack) ∧
    ∀ x' s', P.Feasible pinf ninf x' s' → P.better c.val (P.objv x' s') := by
  obtain ⟨h1, h2, _⟩ := optimalTest_point hw h
  obtain ⟨rfl, F⟩ := optimalTest_facts h
  simp only [noActiveInfinite, Bool.and_eq_true, allTo_iff] at hn
  exact ⟨h1.toFeasible pinf ninf, h2, fun x' s' hf =>
    h2 ▸ cs_dominates_inf hw (rget ds) h1.rows F.csS F.csL hn.1 hn.2 hf⟩

end Qsx
