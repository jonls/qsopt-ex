/-
C17 — memory safety of the size bookkeeping (the part of the property a model can carry).
`Qsx.Cap` models counts and capacities of the growable per-row / per-column arrays with lib.c's
growth rule and the EXTRA_* constants re-extracted from the source.  For every history of
additions and deletions, every write index lies inside the array as sized after the growth step.
The correspondence run compares counts and capacities with the real object after every call.
Actual memory accesses, undefined behaviour and reproducibility are runtime facts: they are
observed (sanitizers, memcheck, repeated runs with perturbed allocator / address space), not proved.
-/
import Qsx.Proofs.CapSound
import Qsx.Proofs.StoreAcctSound
import Qsx.Proofs.SymtabPool
import Qsx.Props.C06

set_option backward.split false

namespace Qsx.Props.C17
open Qsx Qsx.Cap

theorem step_safe (s : S) (o : Op) (h : Cap.Inv s) : WritesInBounds (step s o).1 (step s o).2 ∧ Cap.Inv (step s o).1 :=
  Cap.step_safe s o h

theorem history_safe (ops : List Op) (o : Op) :
    WritesInBounds (step (run {} ops) o).1 (step (run {} ops) o).2 :=
  (Cap.step_safe _ o (run_inv {} ops inv_init)).1

theorem history_inv (ops : List Op) : Cap.Inv (run {} ops) := run_inv {} ops inv_init

-- non-vacuity: the first added row grows every array from 0 and writes index 0
#guard (step {} .addRow).1.rowsize == Gen.extraRows && (step {} .addRow).2.1 == some 0
#guard (run {} [.addRow, .addCol, .addCol, .delRows 1]).ncols == 2

/-! ### free-space accounting of the sparse column store (matsize / matfree)
`Qsx.Store` transliterates matrix_addrow / _addrow_end / _addcoef / _addcol / delcols_work and is
compared with the real arrays after every call (check C06); each `Store.addRow` of the model is checked at
run time against the abstraction `Qsx.StoreAcct` used here. -/

/-- the guard `delta < matfree` of `matrix_addrow` keeps every write of its in-place branch inside
the array (at most one touched column can end exactly at the first free slot) -/
theorem addrow_guard_sufficient (acts : List StoreAcct.Act) (free : Int)
    (hguard : (StoreAcct.delta acts : Int) < free) (hone : StoreAcct.atEndCount acts ≤ 1) :
    ∃ f, StoreAcct.run free acts = some f ∧ 0 ≤ f := StoreAcct.run_safe acts free (by omega)

/-- and `delta ≤ matfree` would not be enough -/
theorem addrow_guard_tight (c : Nat) : StoreAcct.run ((c : Int) + 2) [.inPlace true, .move c] = none := by
  simp only [StoreAcct.run]
  rw [if_pos (by omega), if_neg (by omega)]

/-- `matrix_addcol` from `0 ≤ matfree ≤ matsize`: the new free count stays in that range and the last index
written (`r.2.2`) is below the new `matsize` (`r.1`) -/
theorem addcol_safe (size : Nat) (free : Int) (cnt extra : Nat) (h0 : 0 ≤ free) (h1 : free ≤ size) :
    let r := StoreAcct.addcol size free cnt extra
    0 ≤ r.2.1 ∧ r.2.1 ≤ r.1 ∧ 0 ≤ r.2.2 ∧ r.2.2 < r.1 := by
  unfold StoreAcct.addcol
  dsimp only
  -- after the growth step `cnt + 1 ≤ matfree ≤ matsize` either way; the rest is linear arithmetic
  split
  · split <;> omega
  · split <;> omega

/-- `matrix_addcoef` moving a column of `c` entries to the end of the array under its guard -/
theorem addcoef_move_safe (c : Nat) (free : Int) (h : (c : Int) + 2 < free) :
    ∃ f, StoreAcct.run free [.move c] = some f ∧ 0 ≤ f :=
  StoreAcct.run_safe [.move c] free (by simp [StoreAcct.delta, StoreAcct.atEndCount]; omega)

#guard StoreAcct.run 10 [.first, .inPlace true, .move 3] == some 4
#guard StoreAcct.delta [.first, .inPlace true, .move 3] == 5

/-! ### the string pool of the symbol table (`add_string` / `grow_namelist`, symtab.c) -/

/-- for every pool state whose live strings fit below `strsize` (checked on every dumped state of
the symbol-table sessions) `add_string` leaves its loop with room for the string and its
terminator - the copy stays inside `strspace` - and keeps `strsize ≤ strspace` -/
theorem symtab_pool_write_fits (t : Symtab.T) (s : Symtab.Name) (h : Symtab.PoolOK t) :
    let t' := Symtab.addStringLoop (2 * (t.strsize + (s.length + 1)) + 64) t (s.length + 1)
    t'.strsize + (s.length + 1) ≤ t'.strspace ∧ (Symtab.addString t s).strsize ≤ (Symtab.addString t s).strspace ∧
    0 < (Symtab.addString t s).strspace :=
  have hfit := Symtab.addStringLoop_fits (s.length + 1) _ t h (by omega)
  -- `addString` is the loop followed by `strsize += l`, so its `strsize` is the left side of the first claim
  ⟨hfit.1, hfit.1, hfit.2.1.pos⟩

theorem symtab_pool_step {t : Symtab.T} (h : Symtab.PoolInv t) (op : Qsx.Props.C06.Sym.Op) :
    Symtab.PoolInv (C06.Sym.step t op) := by
  cases op with
  | reg s i => exact Symtab.register_poolInv h s i
  | del s => exact Symtab.delete_poolInv h s
  | ren i s => exact Symtab.rename_poolInv h i s

/-- for every history of registrations, deletions and renamings the pool invariant holds - so every
`add_string` that any such history performs finds room for its string (`symtab_pool_write_fits`), without
the hypothesis having to be observed -/
theorem symtab_pool_history (n : Nat) (ops : List Qsx.Props.C06.Sym.Op) :
    Symtab.PoolInv (ops.foldl Qsx.Props.C06.Sym.step (Symtab.create n)) :=
  List.foldlRecOn ops _ (Symtab.create_poolInv n) fun _ h op _ => symtab_pool_step h op

end Qsx.Props.C17
