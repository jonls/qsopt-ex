/-
C01 — OPTIMAL is only ever reported together with an exact optimality certificate.
(T1, T2, T4, T5: the labels DESIGN.md uses for these theorems, as in "C01-T2", "C01-T4".)
-/
import Qsx.Proofs.DriverSound
import Qsx.Proofs.OptTestSound
import Qsx.Proofs.ApiSound

namespace Qsx.Props.C01
open Qsx Qsx.Gen

/-- T1. What an accepting run of `QSexact_optimal_test` establishes (bounds read as the finite
numbers they are): the cached point satisfies every row and bound exactly, primal value = dual
value = reported value, and no point inside the bounds is better. -/
theorem test_sound_box {P : ILP} {cs rs : Array Nat} {ps ds : Array Rat} {c : Cache}
    (hw : P.WF) (h : optimalTest P cs rs ps ds = some c) :
    P.BoxFeasible (rget c.x) (rget c.slack) ∧
    c.val = P.objv (rget c.x) (rget c.slack) ∧
    c.val = dObj P ds (dzSArr P ds) (dzLArr P ds) ∧
    ∀ x' s', P.BoxFeasible x' s' → P.better c.val (P.objv x' s') :=
  optimalTest_sound_box hw h

/-- T2. Same with bounds equal to the encoding of ±infinity read as absent — under the side
condition that no non-zero reduced cost leans on such a bound (the C code does not check it; the
check `certCheck` on the internal form of the API-level LP, through which the correspondence run passes
every real OPTIMAL, carries the same condition; DESIGN F8). -/
theorem test_sound_inf {P : ILP} {cs rs : Array Nat} {ps ds : Array Rat} {c : Cache}
    {pinf ninf : Rat} (hw : P.WF) (h : optimalTest P cs rs ps ds = some c)
    (hn : noActiveInfinite P pinf ninf ds = true) :
    P.Feasible pinf ninf (rget c.x) (rget c.slack) ∧
    c.val = P.objv (rget c.x) (rget c.slack) ∧
    ∀ x' s', P.Feasible pinf ninf x' s' → P.better c.val (P.objv x' s') :=
  optimalTest_sound_inf hw h hn

/-- T4. Whatever the floating-point engines and the rational basis evaluation answer,
`QSexact_solver` returns success with status OPTIMAL only after `optimalTest` accepted, and the
vectors written to the caller's `x` and `y` are exactly the tested ones. -/
theorem solver_optimal_certified (P : ILP) (pinf ninf : Rat) (dbl : Stage) (rungs : List Stage)
    (h0 : (solve P pinf ninf dbl rungs).rval = 0)
    (h1 : (solve P pinf ninf dbl rungs).status = lpOptimal) :
    ∃ cs rs ps ds c, optimalTest P cs rs ps ds = some c ∧
      (solve P pinf ninf dbl rungs).xOut = some (optPsolAfter P cs rs ps) ∧
      (solve P pinf ninf dbl rungs).yOut = some ds := by
  obtain ⟨cs, rs, ps, ds, c, _, hc, hx, hy⟩ := (solve_certified P pinf ninf dbl rungs h0).1 h1
  exact ⟨cs, rs, ps, ds, c, hc, hx, hy⟩

/-- T4 ∘ T1. The `x` handed back with OPTIMAL is a true optimum of the internal LP. -/
theorem solver_optimal_is_optimum (P : ILP) (hw : P.WF) (pinf ninf : Rat) (dbl : Stage) (rungs : List Stage)
    (h0 : (solve P pinf ninf dbl rungs).rval = 0)
    (h1 : (solve P pinf ninf dbl rungs).status = lpOptimal) :
    ∃ c : Cache, (solve P pinf ninf dbl rungs).xOut = some (c.x ++ c.slack) ∧
      P.BoxFeasible (rget c.x) (rget c.slack) ∧
      ∀ x' s', P.BoxFeasible x' s' → P.better (P.objv (rget c.x) (rget c.slack)) (P.objv x' s') := by
  obtain ⟨cs, rs, ps, ds, c, hc, hx, _⟩ := solver_optimal_certified P pinf ninf dbl rungs h0 h1
  obtain ⟨hb, hv, _, hd⟩ := optimalTest_sound_box hw hc
  refine ⟨c, ?_, hb, fun x' s' hf => hv ▸ hd x' s' hf⟩
  -- `optPsolAfter` is `x ++ slack` of the cache `optCache` builds
  rw [hx, (optimalTest_facts hc).1]
  rfl

/-- T5. The API-level checker through which every OPTIMAL answer of every solve entry point
(including the direct rational simplex) and every accessor value is passed: if it accepts `(x, π)`
then `x` satisfies every row sense/range and column bound and is optimal. -/
theorem certOK_sound {L : LP} {pinf ninf : Rat} {x pi : Array Rat} (hw : L.WF)
    (h : L.certOK pinf ninf x pi = true) : L.IsOptimal pinf ninf (rget x) :=
  LP.certOK_sound hw h

theorem certified_value_unique {L : LP} {pinf ninf : Rat} {x₁ pi₁ x₂ pi₂ : Array Rat} (hw : L.WF)
    (h1 : L.certOK pinf ninf x₁ pi₁ = true) (h2 : L.certOK pinf ninf x₂ pi₂ = true) :
    L.objv (rget x₁) = L.objv (rget x₂) :=
  LP.certified_value_unique hw h1 h2

/-! non-vacuity, by `#guard`s evaluated when the file is built: a concrete LP (min -x-y, x+2y ≤ 4,
3x+y ≤ 6) whose true certificate is accepted -/
def exILP : ILP :=
  { nrows := 2
    scols := #[{ ent := [(0, 1), (1, 3)], lo := 0, up := 1000, obj := -1 },
               { ent := [(0, 2), (1, 1)], lo := 0, up := 1000, obj := -1 }]
    lcols := #[{ ent := [(0, 1)], lo := 0, up := 1000, obj := 0 }, { ent := [(1, 1)], lo := 0, up := 1000, obj := 0 }]
    rhs := #[4, 6], isMin := true }

#guard (optimalTest exILP #[49, 49] #[48, 48] #[8/5, 6/5, 0, 0] #[-2/5, -1/5]).isSome
#guard !(optimalTest exILP #[49, 49] #[48, 48] #[8/5, 6/5, 0, 0] #[-2/5, -1/4]).isSome

end Qsx.Props.C01
