/-
C14 — a basis file reads back as the same basis.
-/
import Qsx.Proofs.BasisFileRT

namespace Qsx.Props.C14
open Qsx.BasisFile

/-- For any number of columns and rows and every basis with exactly `nrows` basic entries
(equivalently: as many basic columns as non-basic rows), the writer succeeds and the reader,
applied to the writer's lines, returns the same basic set and the same at-upper columns; the other
statuses come back normalised: a column that is neither basic nor at upper as FREE or at-lower,
according to whether the column is free (`normalizeC`), a non-basic row that is not at lower as at
upper (`normalizeR`). -/
theorem decode_encode (free : List Bool) (cstat rstat : List Nat)
    (hlen : free.length = cstat.length) (hcount : countBasicC cstat = countNonBasicR rstat) :
    ∃ lines, encode cstat rstat = some lines ∧
      decode free rstat.length lines = (normalizeC free cstat, normalizeR rstat) :=
  Qsx.BasisFile.decode_encode free cstat rstat hlen hcount

theorem encode_total (cstat rstat : List Nat) (hcount : countBasicC cstat = countNonBasicR rstat) :
    (encode cstat rstat).isSome = true :=
  Qsx.BasisFile.encode_total cstat rstat hcount

-- non-vacuity: a 4-column, 2-row basis (basic, upper, free, lower | lower, basic)
#guard encode [49, 50, 51, 48] [48, 49] == some [Line.XL 0 0, Line.UL 1]
#guard (encode [49, 50, 51, 48] [48, 49]).map (decode [false, false, true, true] 2) == some ([49, 50, 51, 51], [48, 49])
#guard countBasicC [49, 50, 51, 48] == countNonBasicR [48, 49]

end Qsx.Props.C14
