/-
C12 — basis verdicts are exact.
The verdict model (`Qsx.Verdict`) decides 'optimal' / 'dual feasible' and the dual bound from the
basic solution `(x, s, y)` of a basis, where `isBasicSol` is the multiplication check that pins
that solution down (rows hold, non-basic columns at the bound their status names, basic columns
with reduced cost zero).  The theorems say what an accepted verdict *means* for every LP and every
basis: 'optimal' ⇒ the basic solution is an optimum of the LP; 'dual feasible' ⇒ the reported bound
is the objective value of the basic solution and bounds every feasible point from the right side.
-/
import Qsx.Proofs.VerdictSound

namespace Qsx.Props.C12
open Qsx Qsx.Verdict

theorem optimal_verdict_sound {P : ILP} {cs rs : Array Nat} {b : BSol} (hw : P.WF)
    (hb : isBasicSol P cs rs b = true) (hv : optimalVerdict P cs rs b = true) :
    P.BoxFeasible (rget b.x) (rget b.s) ∧
    ∀ x' s', P.BoxFeasible x' s' → P.better (P.objv (rget b.x) (rget b.s)) (P.objv x' s') := by
  rw [optimalVerdict, Bool.and_eq_true] at hv
  obtain ⟨hp, hd⟩ := hv
  simp only [primalFeasible, Bool.and_eq_true, allTo_iff, decide_eq_true_eq] at hp
  exact ⟨⟨(isBasicSol_iff.mp hb).1, fun j hj => (hp.1 j hj).1, fun j hj => (hp.1 j hj).2,
    fun i hi => (hp.2 i hi).1, fun i hi => (hp.2 i hi).2⟩, fun _ _ => basic_dominates hw hb hd⟩

/-- the verdict is exactly "primal feasible and dual feasible at tolerance zero" -/
theorem optimal_verdict_iff (P : ILP) (cs rs : Array Nat) (b : BSol) :
    optimalVerdict P cs rs b = true ↔ (primalFeasible P b = true ∧ dualFeasible P cs rs b = true) := by
  simp [optimalVerdict]

theorem dual_bound_is_objective {P : ILP} {cs rs : Array Nat} {b : BSol} (hw : P.WF)
    (hb : isBasicSol P cs rs b = true) :
    dualBound P cs rs b = P.objv (rget b.x) (rget b.s) := by
  obtain ⟨hrows, hcS, hcL⟩ := isBasicSol_iff.mp hb
  rw [objv_split P hw _ _ (rget b.y) hrows, dualBound,
    sumTo_congr fun j hj => colOK_term (hcS j hj), sumTo_congr fun i hi => colOK_term (hcL i hi)]
  ring

theorem dual_bound_valid {P : ILP} {cs rs : Array Nat} {b : BSol} (hw : P.WF)
    (hb : isBasicSol P cs rs b = true) (hd : dualFeasible P cs rs b = true)
    (x' s' : Nat → Rat) (hf : P.BoxFeasible x' s') :
    P.better (dualBound P cs rs b) (P.objv x' s') :=
  dual_bound_is_objective hw hb ▸ basic_dominates hw hb hd hf

/-- two basic solutions, of the same basis or of two, that both pass the multiplication check and both
get the verdict 'optimal' have the same objective value: the verdict cannot depend on which exact
solve produced the vectors -/
theorem optimal_value_unique {P : ILP} {cs rs cs' rs' : Array Nat} {b b' : BSol} (hw : P.WF)
    (hb : isBasicSol P cs rs b = true) (hv : optimalVerdict P cs rs b = true)
    (hb' : isBasicSol P cs' rs' b' = true) (hv' : optimalVerdict P cs' rs' b' = true) :
    P.objv (rget b.x) (rget b.s) = P.objv (rget b'.x) (rget b'.s) := by
  obtain ⟨f1, o1⟩ := optimal_verdict_sound hw hb hv
  obtain ⟨f2, o2⟩ := optimal_verdict_sound hw hb' hv'
  exact better_antisymm (o1 _ _ f2) (o2 _ _ f1)

-- non-vacuity: min x0, x0 ∈ [1,3], one row x0 + s = 4 with s ∈ [0, 10]; basis {s}, x0 at lower
private def P0 : ILP :=
  { nrows := 1, scols := #[{ ent := [(0, 1)], lo := 1, up := 3, obj := 1 }],
    lcols := #[{ ent := [(0, 1)], lo := 0, up := 10, obj := 0 }], rhs := #[4], isMin := true }
private def b0 : BSol := { x := #[1], s := #[3], y := #[0] }
#guard isBasicSol P0 #[Gen.cstatLower] #[Gen.rstatBasic] b0
#guard optimalVerdict P0 #[Gen.cstatLower] #[Gen.rstatBasic] b0
#guard dualBound P0 #[Gen.cstatLower] #[Gen.rstatBasic] b0 == 1
-- x0 at upper instead: still a basic solution, dual infeasible, verdict 'not optimal'
#guard isBasicSol P0 #[Gen.cstatUpper] #[Gen.rstatBasic] { x := #[3], s := #[1], y := #[0] }
#guard !optimalVerdict P0 #[Gen.cstatUpper] #[Gen.rstatBasic] { x := #[3], s := #[1], y := #[0] }

end Qsx.Props.C12
