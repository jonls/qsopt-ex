/-
C04 — the answer is a function of the LP only.
For one LP, any two outcomes that each carry an accepted certificate — whatever configuration,
warm start or repetition produced them — have the same class and the same value.  No enumeration
of configurations is involved: the statement quantifies over the certificates.
-/
import Qsx.Proofs.ApiSound
import Qsx.Model.Session

namespace Qsx.Props.C04
open Qsx

/-- a certified answer: the class together with the certificate that the proved checker accepted -/
inductive Certified (L : LP) (pinf ninf : Rat)
  | optimal (x pi : Array Rat) (h : L.certOK pinf ninf x pi = true)
  | infeasible (y : Array Rat) (h : L.checkFarkas pinf ninf y = true)
  | unbounded (x r : Array Rat) (h : L.checkRay pinf ninf x r = true)

def Certified.cls {L : LP} {pinf ninf : Rat} : Certified L pinf ninf → Nat
  | .optimal .. => 1 | .infeasible .. => 2 | .unbounded .. => 3

theorem certified_status_agree {L : LP} {pinf ninf : Rat} (hw : L.WF) (a b : Certified L pinf ninf) :
    a.cls = b.cls :=
  match a, b with
  | .optimal .., .optimal .. | .infeasible .., .infeasible .. | .unbounded .., .unbounded .. => rfl
  | .optimal _ _ h, .infeasible _ h' | .infeasible _ h', .optimal _ _ h =>
    (LP.optimal_farkas_exclusive hw h h').elim
  | .optimal _ _ h, .unbounded _ _ h' | .unbounded _ _ h', .optimal _ _ h =>
    (LP.optimal_ray_exclusive hw h h').elim
  | .unbounded _ _ h, .infeasible _ h' | .infeasible _ h', .unbounded _ _ h =>
    (LP.ray_farkas_exclusive hw h h').elim

theorem certified_answers_agree {L : LP} {pinf ninf : Rat} {x₁ pi₁ x₂ pi₂ : Array Rat} (hw : L.WF)
    (h1 : L.certOK pinf ninf x₁ pi₁ = true) (h2 : L.certOK pinf ninf x₂ pi₂ = true) :
    L.objv (rget x₁) = L.objv (rget x₂) := LP.certified_value_unique hw h1 h2

/-- a second `QSopt_primal` on an unmodified, solved object performs no work and returns the
stored status (session model, qsopt.c:206-234) -/
theorem repeated_solve_cached (s : Session.S) (r : Nat) (f : Bool) (hb : s.basis = true) (hc : s.cache = true) :
    Session.step s (.optPrimal r f) = s := by
  simp [Session.step, hb, hc]

end Qsx.Props.C04
