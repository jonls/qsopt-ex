/-
C20 — with a log handler installed the library writes nothing to stdout or stderr.
-/
import Qsx.Model.Log

namespace Qsx.Props.C20
open Qsx.Log Qsx.Gen

/-- with a handler registered, `QSlog` touches no file descriptor and delivers exactly one
message: the complete text -/
theorem qslog_handler_silent (msg : String) :
    qslog { handler := true } msg = [.toHandler msg] ∧
    ∀ e ∈ qslog { handler := true } msg, e.isFd = false := by
  simp [qslog, Event.isFd]

/-- every direct writer that the translator finds in /repo's *current* preprocessed sources is one
of the allowed sites (re-checked by the kernel on every run: a new `fprintf (stderr, …)` anywhere
in the library makes this theorem fail) -/
theorem no_direct_writers : directWriters.all allowedSite = true := by decide +kernel

/-- all trace flags are off (the trace-only sites are unreachable) -/
theorem trace_flags_off : traceFlags.all (fun e => e.2 == 0) = true := by decide

end Qsx.Props.C20
