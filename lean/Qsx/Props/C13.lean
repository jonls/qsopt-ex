/-
C13 — LU-based solves are exact.
The factorization code is not modelled; its *contract* is: forward solves satisfy `B x = a`,
backward solves `yᵀ B = cᵀ`, inverse rows `r B = e_i`, tableau rows `t = r·[A | logicals]` (below `A`
is that full matrix), for the matrix obtained from the one handed in by the column-replacement
history so far (`replaceCol`).  The checks below are the products the correspondence run forms on
every output of the real code (small cases through these Lean functions, the others in python); the
theorems say what passing them means, for every dimension and every history.
-/
import Qsx.Proofs.LinAlgSound

namespace Qsx.Props.C13
open Qsx Qsx.LinAlg

/-- inverse rows that pass the check determine every forward solve: `x = M a` -/
theorem forward_solve_determined {n : Nat} {B M : Nat → Nat → Rat} {x a : Nat → Rat}
    (hM : ∀ i, i < n → unitRowOK n B i (M i) = true) (hx : solveOK n B x a = true) :
    ∀ i, i < n → x i = sumTo n (fun l => M i l * a l) :=
  fun i hi => solve_eq_of_inverse_row (hM i hi) hx hi

theorem forward_solve_unique {n : Nat} {B M : Nat → Nat → Rat} {x x' a : Nat → Rat}
    (hM : ∀ i, i < n → unitRowOK n B i (M i) = true) (hx : solveOK n B x a = true) (hx' : solveOK n B x' a = true) :
    ∀ i, i < n → x i = x' i :=
  fun i hi => (forward_solve_determined hM hx i hi).trans (forward_solve_determined hM hx' i hi).symm

/-- a matrix with a kernel certificate has no full set of inverse rows: a singular matrix that is
"solved" would be caught by the inverse-row check -/
theorem singular_not_invertible {n : Nat} {B M : Nat → Nat → Rat} {v : Nat → Rat}
    (hk : kernelOK n B v = true) : ¬ (∀ i, i < n → unitRowOK n B i (M i) = true) := by
  intro hM
  rw [kernelOK, Bool.and_eq_true, Bool.not_eq_true', ← Bool.not_eq_true, allTo_iff] at hk
  refine hk.1 fun i hi => decide_eq_true ?_
  rw [solve_eq_of_inverse_row (hM i hi) hk.2 hi]
  exact sumTo_eq_zero fun _ _ => mul_zero _

/-- column replacement with a zero spike entry yields a singular matrix (explicit kernel vector): `w`
solves `B w = a`; if `w p = 0`, then `w` with entry `p` set to `-1` is in the kernel of the updated matrix -/
theorem zero_spike_singular {n : Nat} {B : Nat → Nat → Rat} {w a : Nat → Rat} {p : Nat} (hp : p < n)
    (hw : solveOK n B w a = true) (h0 : w p = 0) :
    kernelOK n (replaceCol B p a) (fun k => if k = p then -1 else w k) = true := by
  rw [kernelOK, Bool.and_eq_true, Bool.not_eq_true', ← Bool.not_eq_true, allTo_iff, solveOK_iff]
  refine ⟨fun h => ?_, fun i hi => ?_⟩
  · simpa using h p hp
  · -- the product differs from `B w` in term `p` only
    rw [mulVec, sumTo_eq_add_diff hp (g := fun k => B i k * w k) fun k hk => by simp only [replaceCol, if_neg hk],
      ← mulVec, solveOK_iff.mp hw i hi]
    simp only [replaceCol, ↓reduceIte, h0]
    ring

/-- column replacement with a non-zero spike entry `w p` (`w = B⁻¹ a`) keeps the matrix invertible: inverse
rows of the updated matrix exist (product-form update); a history of replacements is this step iterated -/
theorem nonzero_spike_invertible {n : Nat} {B M : Nat → Nat → Rat} {w a : Nat → Rat} {p : Nat} (hp : p < n)
    (hM : ∀ i, i < n → unitRowOK n B i (M i) = true)
    (hw : ∀ i, i < n → w i = sumTo n (fun l => M i l * a l)) (hne : w p ≠ 0) :
    ∀ i, i < n → unitRowOK n (replaceCol B p a) i (etaRows M w p i) = true :=
  eta_update hp hM hw hne

/-- with `r` the `i`-th inverse row of the basis `ord`, the tableau row `t = r·A` has `δ_ik` in the
basic column `ord k` -/
theorem tableau_basic_entries {n nall : Nat} {A : Nat → Nat → Rat} {ord : Nat → Nat} {i : Nat} {r t : Nat → Rat}
    (hr : unitRowOK n (basisOf A ord) i r = true) (ht : tabRowOK n nall A r t = true)
    (k : Nat) (hk : k < n) (hord : ord k < nall) : t (ord k) = unit i k :=
  (tabRowOK_iff.mp ht (ord k) hord).trans (tsolveOK_iff.mp hr k hk)

theorem tableau_equation {n nall : Nat} {A : Nat → Nat → Rat} {r t z b : Nat → Rat}
    (ht : tabRowOK n nall A r t = true)
    (hz : ∀ l, l < n → sumTo nall (fun j => A l j * z j) = b l) :
    sumTo nall (fun j => t j * z j) = sumTo n (fun l => r l * b l) :=
  dot_of_checks (tabRowOK_iff.mp ht) hz

-- non-vacuity: B = [[1,1],[1,-1]], inverse rows (1/2,1/2),(1/2,-1/2); replacing column 0 by (1,-1) is a zero-spike (singular) update
private def B0 : Nat → Nat → Rat := fun i k => if i = 1 ∧ k = 1 then -1 else 1
#guard unitRowOK 2 B0 0 (fun l => (1:Rat)/2) && unitRowOK 2 B0 1 (fun l => if l = 0 then (1:Rat)/2 else -1/2)
#guard solveOK 2 B0 (fun k => if k = 0 then 0 else 1) (fun i => if i = 0 then 1 else -1)
#guard kernelOK 2 (replaceCol B0 0 (fun i => if i = 0 then 1 else -1)) (fun k => if k = 0 then -1 else 1)

end Qsx.Props.C13
