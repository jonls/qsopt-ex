/-
C02 — INFEASIBLE is only ever reported together with an exact Farkas certificate.
-/
import Qsx.Proofs.DriverSound
import Qsx.Proofs.ApiSound

namespace Qsx.Props.C02
open Qsx Qsx.Gen

/-- If `QSexact_infeasible_test` accepts `y`, the internal LP has no feasible point; by
construction of the test the multipliers never lean on a bound that encodes ±infinity. -/
theorem test_sound {P : ILP} {pinf ninf : Rat} {ds : Array Rat}
    (hw : P.WF) (h : infeasibleTest P pinf ninf ds = true) : ¬ ∃ x s, P.Feasible pinf ninf x s :=
  infeasibleTest_sound hw h

/-- `QSexact_solver` returns success with status INFEASIBLE only after `infeasibleTest` accepted
the very vector it wrote to the caller's `y`. -/
theorem solver_infeasible_certified (P : ILP) (pinf ninf : Rat) (dbl : Stage) (rungs : List Stage)
    (h0 : (solve P pinf ninf dbl rungs).rval = 0)
    (h1 : (solve P pinf ninf dbl rungs).status = lpInfeasible) :
    ∃ ds, infeasibleTest P pinf ninf ds = true ∧ (solve P pinf ninf dbl rungs).yOut = some ds := by
  obtain ⟨ds, _, hc, hy⟩ := (solve_certified P pinf ninf dbl rungs h0).2 h1
  exact ⟨ds, hc, hy⟩

theorem solver_infeasible_is_infeasible (P : ILP) (hw : P.WF) (pinf ninf : Rat) (dbl : Stage)
    (rungs : List Stage) (h0 : (solve P pinf ninf dbl rungs).rval = 0)
    (h1 : (solve P pinf ninf dbl rungs).status = lpInfeasible) :
    ¬ ∃ x s, P.Feasible pinf ninf x s := by
  obtain ⟨ds, hc, _⟩ := solver_infeasible_certified P pinf ninf dbl rungs h0 h1
  exact infeasibleTest_sound hw hc

/-- API-level statement used as the oracle on every INFEASIBLE answer. -/
theorem checkFarkas_sound {L : LP} {pinf ninf : Rat} {y : Array Rat} (hw : L.WF)
    (h : L.checkFarkas pinf ninf y = true) : ¬ ∃ x, L.Feasible pinf ninf x :=
  LP.checkFarkas_sound hw h

/-- No LP that has a feasible point is reported INFEASIBLE by the exact solver (the internal LP
being the one `ILLlib_addrow` builds for `L`). -/
theorem no_feasible_lp_reported_infeasible (L : LP) (hw : L.WF) (pinf ninf : Rat) (dbl : Stage)
    (rungs : List Stage) (x : Nat → Rat) (hf : L.Feasible pinf ninf x)
    (h0 : (solve (L.toInternal pinf) pinf ninf dbl rungs).rval = 0) :
    (solve (L.toInternal pinf) pinf ninf dbl rungs).status ≠ lpInfeasible := by
  intro h1
  exact solver_infeasible_is_infeasible _ (L.toInternal_WF pinf) pinf ninf dbl rungs h0 h1
    ⟨x, L.slackOf x, LP.feasible_lift hw hf⟩

def exILP : ILP :=
  { nrows := 2
    scols := #[{ ent := [(0, 1), (1, 1)], lo := -1000, up := 1000, obj := 1 }]
    lcols := #[{ ent := [(0, 1)], lo := 0, up := 5000, obj := 0 }, { ent := [(1, -1)], lo := 0, up := 5000, obj := 0 }]
    rhs := #[1, 2], isMin := true }

#guard infeasibleTest exILP 5000 (-1000) #[-1, 1]
#guard !(infeasibleTest exILP 5000 (-1000) #[0, 0])

end Qsx.Props.C02
