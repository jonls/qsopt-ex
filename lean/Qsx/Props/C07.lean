/-
C07 — invalid arguments are rejected with an error and leave the problem untouched.
The reference model's guards accept exactly the documented argument ranges, for every problem and
every argument value (stated for chgCoef, delRows, delCols, chgBounds, chgSenses); a rejected call of
any kind changes nothing.  The correspondence check compares the real
library's return code and its before/after state with this model at every boundary value.
-/
import Qsx.Proofs.SpecSound

namespace Qsx.Props.C07
open Qsx.Spec

theorem inRange_iff (i : Int) (n : Nat) : inRange i n = true ↔ 0 ≤ i ∧ i < (n : Int) := by
  simp [inRange]

theorem rejected_iff_invalid_chgCoef (p : Prob) (r c : Int) (v : Rat) :
    (step p (.chgCoef r c v)).2 = .err ↔ ¬ ((0 ≤ r ∧ r < p.rows.size) ∧ (0 ≤ c ∧ c < p.cols.size)) :=
  guard_rejects.trans (not_congr (by simp only [Bool.and_eq_true, inRange_iff]))

theorem rejected_iff_invalid_delRows (p : Prob) (idx : List Int) :
    (step p (.delRows idx)).2 = .err ↔ ¬ (∀ i ∈ idx, 0 ≤ i ∧ i < p.rows.size) :=
  guard_rejects.trans (not_congr (by simp only [List.all_eq_true, inRange_iff]))

theorem rejected_iff_invalid_delCols (p : Prob) (idx : List Int) :
    (step p (.delCols idx)).2 = .err ↔ ¬ (∀ i ∈ idx, 0 ≤ i ∧ i < p.cols.size) :=
  guard_rejects.trans (not_congr (by simp only [List.all_eq_true, inRange_iff]))

theorem rejected_iff_invalid_chgBounds (p : Prob) (l : List (Int × Char × Rat)) :
    (step p (.chgBounds l)).2 = .err ↔
      ¬ (∀ e ∈ l, (0 ≤ e.1 ∧ e.1 < p.cols.size) ∧ (e.2.1 = 'L' ∨ e.2.1 = 'U' ∨ e.2.1 = 'B')) :=
  guard_rejects.trans (not_congr (by
    simp only [List.all_eq_true, Bool.and_eq_true, Bool.or_eq_true, beq_iff_eq, inRange_iff, or_assoc]))

theorem rejected_iff_invalid_chgSenses (p : Prob) (l : List (Int × Char)) :
    (step p (.chgSenses l)).2 = .err ↔
      ¬ (∀ e ∈ l, (0 ≤ e.1 ∧ e.1 < p.rows.size) ∧ (e.2 = 'L' ∨ e.2 = 'G' ∨ e.2 = 'E' ∨ e.2 = 'R')) :=
  guard_rejects.trans (not_congr (by
    simp only [List.all_eq_true, validSense, Bool.and_eq_true, Bool.or_eq_true, beq_iff_eq, inRange_iff,
      or_assoc]))

/-- atomicity: whatever the call and the problem, an error return means nothing changed
(list variants included: a list with one bad entry changes nothing) -/
theorem error_leaves_state (p : Prob) (op : Op) (h : (step p op).2 = .err) : (step p op).1 = p :=
  step_err p op h

end Qsx.Props.C07
