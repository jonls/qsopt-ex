/-
C09 — MPS round trip: the layers it rests on.  Numbers: C10.  BOUNDS section: `mps_bounds_roundtrip`.
Ranged rows are written as 'G' rows with a RANGES record (kept for range 0 too); the RANGES /
ROWS / COLUMNS grammar and the agreement with the LP rendering are tied by round trips only.
-/
import Qsx.Proofs.LpBoundsRT

namespace Qsx.Props.C09
open Qsx

/-- The BOUNDS section of the MPS format: reading the records the writer prints for a column
(FX / FR / MI / LO / PL / UP, possibly none) with the reader's "first definition wins" flags and
the fill-in of defaults returns the column's bounds, for every `lo ≤ up`, integer column or not. -/
theorem mps_bounds_roundtrip (lo up pinf ninf : Rat) (isInt : Bool) (hle : lo ≤ up) (hn : ninf < 0) (hp : 1 < pinf) :
    MpsBounds.readCol pinf ninf isInt (MpsBounds.writeCol lo up pinf ninf isInt) = (lo, up) :=
  MpsBounds.read_write lo up pinf ninf isInt

/-- RANGES: a ranged row (range ≥ 0, zero included) is written as a 'G' row plus a RANGES record and read
back as the same ranged row; rows of the other senses are unaffected. -/
theorem mps_ranges_roundtrip (sense : Char) (rhs range : Rat) (hr : 0 ≤ range) (hs : sense = 'R' ∨ range = 0) :
    MpsRanges.readRow (MpsRanges.writeRow sense rhs range).1 (MpsRanges.writeRow sense rhs range).2.1
      (MpsRanges.writeRow sense rhs range).2.2 = (sense, rhs, range) := by
  unfold MpsRanges.writeRow
  by_cases h : sense = 'R'
  · subst h
    simp [MpsRanges.readRow, not_lt.mpr hr]
  · rcases hs with hs | hs
    · exact absurd hs h
    · subst hs
      simp [h, MpsRanges.readRow]

/-- and the reader gives every RANGES record of a foreign file its standard meaning -/
theorem mps_ranges_meaning (sense : Char) (rhs r v : Rat) (hs : sense = 'G' ∨ sense = 'L' ∨ sense = 'E') :
    let row := MpsRanges.readRow sense rhs (some r)
    row.1 = 'R' ∧
    ((row.2.1 ≤ v ∧ v ≤ row.2.1 + row.2.2) ↔
      (if sense = 'G' then rhs ≤ v ∧ v ≤ rhs + |r|
       else if sense = 'L' then rhs - |r| ≤ v ∧ v ≤ rhs
       else if 0 ≤ r then rhs ≤ v ∧ v ≤ rhs + r else rhs + r ≤ v ∧ v ≤ rhs)) := by
  rcases hs with rfl | rfl | rfl
  · simp [MpsRanges.readRow, MpsRanges.abs_ite]
  · simp [MpsRanges.readRow, MpsRanges.abs_ite]
  · by_cases hr : r < 0
    · simp [MpsRanges.readRow, hr, not_le.mpr hr]
    · simp [MpsRanges.readRow, hr, not_lt.mp hr]

#guard MpsRanges.readRow 'L' 10 (some (-4)) == ('R', 6, 4)
#guard MpsRanges.readRow 'E' 10 (some (-4)) == ('R', 6, 4) && MpsRanges.readRow 'E' 10 (some 4) == ('R', 10, 4)

-- non-vacuity: an integer column [0, +inf) needs its PL record (without it the reader makes it binary)
#guard MpsBounds.writeCol 0 1000 1000 (-1000) true == [.pl]
#guard MpsBounds.readCol 1000 (-1000) true [] == (0, 1)
#guard MpsBounds.readCol 1000 (-1000) true [.pl] == (0, 1000)
#guard MpsBounds.writeCol (-1000) 3 1000 (-1000) false == [.mi, .up 3]

end Qsx.Props.C09
