/-
C15 — equivalent formulations receive equivalent answers.
`Sim L L' pinf ninf a b` : `L'` is a reformulation of `L` (feasible points correspond, objective values related
by `v' = a·v + b`, a negative `a` going with the opposite sense).  The three theorems at the top say
that a reformulation has the same definitive status and the transformed optimal value; `sim_trans`
closes reformulations under composition (so every composition of the listed transformations is
covered by induction on its length); the remaining theorems show that each listed transformation
— as implemented by `Qsx.Xform`, the functions the check's generator is compared against — is a
reformulation.  Side conditions are exactly the obvious ones (indices in range, non-zero / positive
factors, a finite bound not moved onto the encoding of infinity).
-/
import Qsx.Proofs.XformInst

namespace Qsx.Props.C15
open Qsx Qsx.Xform

theorem status_infeasible {L L' : LP} {pinf ninf a b : Rat} (h : Sim L L' pinf ninf a b) :
    Infeasible L pinf ninf ↔ Infeasible L' pinf ninf := h.infeasible

theorem status_unbounded {L L' : LP} {pinf ninf a b : Rat} (h : Sim L L' pinf ninf a b) :
    Unbounded L pinf ninf ↔ Unbounded L' pinf ninf := h.unbounded

theorem optimal_value {L L' : LP} {pinf ninf a b : Rat} (h : Sim L L' pinf ninf a b) (v : Rat) :
    IsOpt L pinf ninf v ↔ IsOpt L' pinf ninf (a * v + b) := h.optimal v

theorem sim_trans {L L' L'' : LP} {pinf ninf a b a' b' : Rat}
    (h : Sim L L' pinf ninf a b) (h' : Sim L' L'' pinf ninf a' b') :
    Sim L L'' pinf ninf (a' * a) (a' * b + b') := h.trans h'

theorem neg_objective (L : LP) (pinf ninf : Rat) : Sim L (negObj L) pinf ninf (-1) 0 := negObj_sim L pinf ninf

theorem scale_row (L : LP) (pinf ninf : Rat) (i : Nat) (t : Rat) (ht : t ≠ 0) :
    Sim L (scaleRow L i t) pinf ninf 1 0 := scaleRow_sim L pinf ninf i t ht

theorem duplicate_row (L : LP) (pinf ninf : Rat) (i : Nat) (hi : i < L.nr) :
    Sim L (dupRow L i) pinf ninf 1 0 := dupRow_sim L pinf ninf i hi

theorem redundant_row (L : LP) (pinf ninf : Rat) (i : Nat) (t : Rat) (hi : i < L.nr) (ht : 0 ≤ t) :
    Sim L (addRedundant L i t) pinf ninf 1 0 := addRedundant_sim L pinf ninf i t hi ht

theorem split_equality (L : LP) (pinf ninf : Rat) (i : Nat) (hi : i < L.nr) :
    Sim L (splitEq L i) pinf ninf 1 0 := splitEq_sim L pinf ninf i hi

theorem shift_variable (L : LP) (pinf ninf : Rat) (j : Nat) (d : Rat) (hj : j < L.nc)
    (hlo : (L.col j).lo ≠ ninf → (L.col j).lo - d ≠ ninf) (hup : (L.col j).up ≠ pinf → (L.col j).up - d ≠ pinf) :
    Sim L (shiftVar L pinf ninf j d) pinf ninf 1 (-((L.col j).obj * d)) := shiftVar_sim L pinf ninf j d hj hlo hup

theorem scale_variable (L : LP) (pinf ninf : Rat) (j : Nat) (m : Rat) (hm : 0 < m)
    (hlo : (L.col j).lo ≠ ninf → (L.col j).lo / m ≠ ninf) (hup : (L.col j).up ≠ pinf → (L.col j).up / m ≠ pinf) :
    Sim L (scaleVar L pinf ninf j m) pinf ninf 1 0 := scaleVar_sim L pinf ninf j m hm hlo hup

theorem permute_rows (L : LP) (pinf ninf : Rat) (σ : Array Nat)
    (hin : ∀ k, k < L.nr → nget σ k < L.nr) (honto : ∀ i, i < L.nr → ∃ k, k < L.nr ∧ nget σ k = i) :
    Sim L (permRows L σ) pinf ninf 1 0 := permRows_sim L pinf ninf σ hin honto

theorem permute_columns (L : LP) (pinf ninf : Rat) (σ : Array Nat)
    (h1 : ∀ k, k < L.nc → nget σ k < L.nc ∧ invAt σ (nget σ k) = k)
    (h2 : ∀ j, j < L.nc → invAt σ j < L.nc ∧ nget σ (invAt σ j) = j)
    (hent : ∀ i, i < L.nr → ∀ e ∈ (L.row i).ent, e.1 < L.nc) :
    Sim L (permCols L σ) pinf ninf 1 0 := permCols_sim L pinf ninf σ h1 h2 hent

-- non-vacuity: min x0 + 2 x1, x0 ∈ [0,4], x1 ∈ [1,∞), row x0 + x1 = 3
private def L0 : LP :=
  { isMin := true, cols := #[{ obj := 1, lo := 0, up := 4 }, { obj := 2, lo := 1, up := 1000 }],
    rows := #[{ sense := 'E', rhs := 3, range := 0, ent := [(0, 1), (1, 1)] }] }
#guard (splitEq L0 0).nr == 2 && ((splitEq L0 0).row 0).sense == 'L' && ((splitEq L0 0).row 1).sense == 'G'
#guard ((scaleRow L0 0 (-2)).row 0) == { sense := 'E', rhs := -6, range := 0, ent := [(0, -2), (1, -2)] }
#guard ((shiftVar L0 1000 (-1000) 1 1).row 0).rhs == 2 && ((shiftVar L0 1000 (-1000) 1 1).col 1).lo == 0
#guard ((permCols L0 #[1, 0]).row 0).ent == [(1, 1), (0, 1)] && ((permCols L0 #[1, 0]).col 0).obj == 2
#guard invAt #[2, 0, 1] 0 == 1 && invAt #[2, 0, 1] 2 == 0

end Qsx.Props.C15
