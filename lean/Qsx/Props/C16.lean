/-
C16 — copies are faithful and independent; reduced-precision copies agree up to conversion error.
`Qsx.Multi` is the store of problem objects with the reference editing semantics per object; the
correspondence run drives the real library and this model with the same interleavings of edits,
copies and frees on several objects and compares what every object shows after every step.
`Qsx.Round.convOK` is the check applied to every number of the `dbl` / `mpf` copies.
-/
import Qsx.Proofs.CopySound

namespace Qsx.Props.C16
open Qsx Qsx.Multi Qsx.Round

theorem copy_faithful (s : Store) (a b : Nat) (p : Spec.Prob) (h : s a = some p) :
    step s (.copy a b) b = some p := by
  simp [step, h, Multi.set]

theorem copy_independent (s : Store) (a b : Nat) (p : Spec.Prob) (h : s a = some p) (cs : List Cmd)
    (hcs : ∀ c ∈ cs, b ≠ c.target) : run (step s (.copy a b)) cs b = some p :=
  (run_other _ cs b hcs).trans (copy_faithful s a b p h)

theorem original_independent (s : Store) (a b : Nat) (hab : a ≠ b) (cs : List Cmd)
    (hcs : ∀ c ∈ cs, a ≠ c.target) : run (step s (.copy a b)) cs a = s a :=
  (run_other _ cs a hcs).trans (step_other s (.copy a b) a hab)

/-- no command changes what any other object shows -/
theorem objects_isolated (s : Store) (c : Cmd) (k : Nat) (h : k ≠ c.target) : step s c k = s k :=
  step_other s c k h

theorem conversion_relative_error {q d : Rat} {e : Int} {p : Nat} (h : ulpOK q d e p = true) (hd : d ≠ 0) :
    |q - d| ≤ (2 : Rat) ^ (1 - (p : Int)) * |d| := ulpOK_rel h hd

theorem conversion_zero {q : Rat} {e : Int} {p : Nat} (h : ulpOK q 0 e p = true) : q = 0 := by
  unfold ulpOK at h
  simpa using h

-- non-vacuity: 1/3 truncated to 53 bits is within one ulp; 1/3 against 0.3333 is not; exponents are found
#guard convOK (1/3) (6004799503160661/18014398509481984) 53
#guard !convOK (1/3) (3333/10000) 53
#guard expOf (6004799503160661/18014398509481984) == -2
#guard expOf 4 == 2 && expOf (-5) == 2 && expOf (1/2) == -1
#guard convOK 0 0 53 && !convOK (1/1000000) 0 53

end Qsx.Props.C16
