/-
C06 — query functions reflect exactly the edits made.  Reference-model level obligations
(the refinement of the column store `Qsx.Store` to this model is not proved: it is observed through
the two correspondence runs, DESIGN.md 11.2).
-/
import Qsx.Proofs.SpecSound
import Qsx.Proofs.SymtabSound
import Qsx.Proofs.SymtabIndex

namespace Qsx.Props.C06
open Qsx.Spec

/-- every call has a defined outcome on every problem (the reference semantics is total) -/
theorem step_total (p : Prob) (op : Op) : (step p op).2 = .ok ∨ (step p op).2 = .err := by
  cases (step p op).2 <;> simp

/-- a rejected call leaves the reference problem unchanged -/
theorem err_unchanged (p : Prob) (op : Op) (h : (step p op).2 = .err) : (step p op).1 = p :=
  step_err p op h

/-! ### the symbol table behind every name query (symtab.c, model `Qsx.Symtab`)

For every history of registrations (named or unnamed, with table growth and string-pool
maintenance), deletions (swap with the last entry) and renamings the hash structure stays consistent, the
table holds exactly the list a list-level specification computes (`Sym.specStep`: append, swap-remove,
set), and a lookup returns exactly the
position of the name in that list. -/

namespace Sym
open Qsx.Symtab

inductive Op
  | reg (s : Option Name) (idx : Int)
  | del (s : Name)
  | ren (i : Nat) (s : Option Name)

def step (t : T) : Op → T
  | .reg s i => (register t s i).1
  | .del s => (delete t s).1
  | .ren i s => (rename t i s).1

/-- the specification: a plain list of optional names -/
def specStep (l : List (Option Name)) : Op → List (Option Name)
  | .reg none _ => l ++ [none]
  | .reg (some n) _ => if some n ∈ l then l else l ++ [some n]
  | .del s => specDelete l s
  | .ren i s => specRename l i s

theorem step_spec {t : T} {l : List (Option Name)} (h : Holds t l) (op : Op) : Holds (step t op) (specStep l op) := by
  cases op with
  | reg s i => cases s <;> exact (register_spec h _ i).1
  | del s => exact (delete_spec h s).1
  | ren i s => exact rename_spec h i s

theorem history_from (ops : List Op) {t : T} {l : List (Option Name)} (h : Holds t l) :
    Holds (ops.foldl step t) (ops.foldl specStep l) := by
  induction ops generalizing t l with
  | nil => exact h
  | cons op ops ih => exact ih (step_spec h op)

end Sym

/-- every reachable symbol table is well formed and holds the specified list of names -/
theorem symtab_history (n : Nat) (ops : List Sym.Op) :
    Qsx.Symtab.WF (ops.foldl Sym.step (Qsx.Symtab.create n)) ∧
    Qsx.Symtab.abs (ops.foldl Sym.step (Qsx.Symtab.create n)) = ops.foldl Sym.specStep [] :=
  have h := Sym.history_from ops (Qsx.Symtab.create_holds n)
  ⟨h.wf, h.eq⟩

/-- after any history a lookup answers exactly what the specified list says: entry `e` iff the list
has the name at position `e` -/
theorem symtab_lookup_history (n : Nat) (ops : List Sym.Op) (s : Qsx.Symtab.Name) (e : Nat) :
    Qsx.Symtab.lookup (ops.foldl Sym.step (Qsx.Symtab.create n)) s = some e ↔
      (ops.foldl Sym.specStep [])[e]? = some (some s) := by
  obtain ⟨hw, habs⟩ := symtab_history n ops
  rw [Qsx.Symtab.lookup_iff hw, Qsx.Symtab.nameAt_iff, habs]

/-- the hypotheses are met by a non-trivial history: three names into a table of initial size 1
(two growth steps), one deletion in the middle -/
example :
    let ops : List Sym.Op := [.reg (some [97]) 0, .reg (some [98]) 1, .reg (some [99]) 2, .del [97], .ren 1 (some [100])]
    ops.foldl Sym.specStep [] = [some [99], some [100]] ∧
    Qsx.Symtab.lookup (ops.foldl Sym.step (Qsx.Symtab.create 1)) [99] = some 0 := by
  decide +kernel

/-- name → item index (what `QSget_column_index` / `QSget_row_index` answer): after
`ILLsymboltab_index_reset` with the distinct names of a well-formed table, `getindex` of the j-th
name is j.  `hsz` is the size test `index_reset` makes itself (symtab.c:210-212: the table may hold one
entry more than there are names, the objective's). -/
theorem symtab_getindex_after_reset {t : Qsx.Symtab.T} (hw : Qsx.Symtab.WF t) (names : List Qsx.Symtab.Name)
    (hsz : t.ents.size = names.length ∨ t.ents.size = names.length + 1)
    (hall : ∀ s ∈ names, ∃ k, Qsx.Symtab.lookup t s = some k) (hnd : names.Nodup) :
    (Qsx.Symtab.indexReset t names).2 = 0 ∧ Qsx.Symtab.WF (Qsx.Symtab.indexReset t names).1 ∧
    ∀ (j : Nat) s, names[j]? = some s →
      Qsx.Symtab.getindex (Qsx.Symtab.indexReset t names).1 s = (0, (j : Int)) := by
  obtain ⟨t', hgo, hok, hsame, hset, _⟩ := Qsx.Symtab.indexReset_go names t 0 hall hnd
  rw [Qsx.Symtab.indexReset, if_neg (by rcases hsz with h | h <;> simp [h]), hgo]
  refine ⟨rfl, hw.congr hsame, fun j s hj => ?_⟩
  obtain ⟨k, hk⟩ := hall s (List.mem_of_getElem? hj)
  rw [Qsx.Symtab.getindex, hok, Qsx.Symtab.lookup_congr hsame, hk]
  simpa using hset j s k hj hk

end Qsx.Props.C06
