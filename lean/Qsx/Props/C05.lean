/-
C05 — no stale solution is served: invariants of the session state machine for ALL histories.
-/
import Qsx.Model.Session

set_option backward.split false

namespace Qsx.Props.C05
open Qsx.Session Qsx.Gen

/-- a stored solution is always either computed for the problem exactly as it stands now, or it
survived only deletions of rows for which `ILLlib_delrows` reported "basis ok, cache ok" (the
deleted rows were basic with zero duals) -/
def Inv (s : S) : Prop :=  -- (a stored solution implies the status is not MODIFIED, so QSget_objval agrees with the other accessors)
  (s.cache = true → (s.cacheVersion = s.lpVersion ∨ s.keptByDelrows = true)) ∧
  (s.cache = true → s.qstatus ≠ lpModified) ∧
  (s.cache = true → s.basis = true)

theorem status_codes : lpOptimal ≠ lpModified ∧ lpUnsolved ≠ lpModified := by decide

/-- the invariant speaks only of states that hold a solution; every edit but a benign row
deletion ends in `freeCache`, which holds none -/
theorem inv_of_no_cache {s : S} (h : s.cache = false) : Inv s := by simp [Inv, h]

/-- a solve that ended OPTIMAL stores the solution of the problem as it stands, with its basis -/
theorem inv_fresh {s : S} (hv : s.cacheVersion = s.lpVersion) (hq : s.qstatus = lpOptimal) (hb : s.basis = true) :
    Inv s :=
  ⟨fun _ => .inl hv, fun _ => hq ▸ status_codes.1, fun _ => hb⟩

theorem inv_optWork {s : S} (h : Inv s) (r : Nat) (fail : Bool) : Inv (optWork s r fail) := by
  unfold optWork
  split
  · exact ⟨h.1, fun _ => status_codes.2, h.2.2⟩
  · split
    · next hr => exact inv_fresh rfl hr rfl
    · exact inv_of_no_cache rfl

theorem inv_step (s : S) (op : Op) (h : Inv s) : Inv (step s op) := by
  cases op with
  | addCols | newRow | addRows | delCols | chgKeepFactor | chgMatrix | chgBound => exact inv_of_no_cache rfl
  | failedCall => exact h
  | loadBasis => exact ⟨h.1, h.2.1, fun _ => rfl⟩
  | delRows =>
    simp only [step]
    split
    · exact ⟨.inr, h.2.1, h.2.2⟩
    · exact inv_of_no_cache rfl
  | optPrimal r fail | optDual r fail =>
    simp only [step]
    split
    · exact h
    · exact inv_optWork h r fail
  | exactSolver =>
    simp only [step]
    split
    · exact h
    · split
      · exact inv_fresh rfl rfl rfl
      · exact inv_of_no_cache rfl

/-- **every history**: after any sequence of calls, with any solver results, the invariant holds -/
theorem session_inv (ops : List Op) : Inv (run ops) :=
  List.foldlRecOn ops step (inv_of_no_cache rfl) fun s h op _ => inv_step s op h

/-- every successful edit other than a row deletion drops the stored solution -/
theorem edit_drops_cache (s : S) (op : Op)
    (h : op = .addCols ∨ op = .newRow ∨ (∃ f, op = .addRows f) ∨ (∃ b, op = .delCols b) ∨ op = .chgKeepFactor ∨ op = .chgMatrix ∨ (∃ k, op = .chgBound k)) :
    (step s op).cache = false ∧ (step s op).qstatus = lpModified := by
  rcases h with h | h | ⟨f, h⟩ | ⟨b, h⟩ | h | h | ⟨k, h⟩ <;> subst h <;> exact ⟨rfl, rfl⟩

/-- the accessors fail exactly when no solution is stored -/
theorem accessors_need_cache (s : S) : accessorOk s = true ↔ s.cache = true := by simp [accessorOk]

theorem optWork_cache {s : S} {r : Nat} {fail : Bool} (h0 : s.cache = false)
    (h1 : (optWork s r fail).cache = true) : r = lpOptimal := by
  unfold optWork at h1
  split at h1
  · nomatch h0.symm.trans h1
  · split at h1
    · assumption
    · nomatch h1

/-- a cache only ever appears through a solve that ended OPTIMAL -/
theorem cache_only_after_optimal (s : S) (op : Op) (h0 : s.cache = false) (h1 : (step s op).cache = true) :
    (∃ f, op = .optPrimal lpOptimal f) ∨ (∃ f, op = .optDual lpOptimal f) ∨ (∃ f b k, op = .exactSolver lpOptimal f b k) := by
  -- every other transition clears `cache` (`nomatch h1`) or leaves it as it was (`h0.symm.trans h1 : false = true`)
  cases op with
  | addCols | newRow | addRows | delCols | chgKeepFactor | chgMatrix | chgBound => nomatch h1
  | failedCall | loadBasis => nomatch h0.symm.trans h1
  | delRows =>
    simp only [step] at h1
    split at h1
    · nomatch h0.symm.trans h1
    · nomatch h1
  | optPrimal r fail | optDual r fail =>
    simp only [step] at h1
    split at h1
    · nomatch h0.symm.trans h1
    · simp [optWork_cache h0 h1]
  | exactSolver st fail bas fok =>
    simp only [step] at h1
    split at h1
    · nomatch h0.symm.trans h1
    · split at h1
      · next hst => simp [hst]
      · nomatch h1

end Qsx.Props.C05
