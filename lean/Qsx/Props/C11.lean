/-
C11 — no input file can crash, hang or corrupt the reader: the part the model carries.
(1) the number scanner, (2) the lexical layer of the LP reader (`Qsx.LpLex`, read_lp.c), (3) that of the
MPS reader (`Qsx.MpsLex`, read_mps.c).
Every numeric field of an LP, MPS or basis file is handed to the number scanner; the scanner is a
total function (structural recursion on the text), never reports more characters than the text
has, and never reaches a division with a zero divisor.
-/
import Qsx.Proofs.NumScan
import Qsx.Proofs.LpLexSafe
import Qsx.Proofs.MpsLexSafe

namespace Qsx.Props.C11
open Qsx.Num

/-- totality: for every character sequence the scanner returns a result (it is a Lean function
defined by structural recursion; this statement records the shape of its result) -/
theorem scan_total (cs : List Char) : ∃ n v, scan cs = (n, v) := ⟨_, _, rfl⟩

theorem scan_consumes_le (cs : List Char) : (scan cs).1 ≤ cs.length := Qsx.Num.scan_consumes_le cs

/-- whenever a value is delivered for a text containing `/`, the divisor was not zero -/
theorem scan_never_divides_by_zero (cs : List Char) (q : Rat) (n : Nat) (h : scan cs = (n, Val.ok q)) :
    ∀ v0, (scanLoop {} cs).first = some v0 →
      finishVal (scanLoop {} cs).num (scanLoop {} cs).den (scanLoop {} cs).lExp (scanLoop {} cs).expSgn (scanLoop {} cs).sgn ≠ 0 :=
  fun _ hv => result_ok_ne_zero _ h hv


/-! ### the lexical layer of the LP reader (read_lp.c), model `Qsx.LpLex`

A lexer call is `Safe` when it answers (the model never had to read behind the string terminator of the line buffer)
and leaves the cursor inside the string.  Every function is safe from every state with the cursor inside the string,
so every sequence of lexer calls after `ILLread_lp_state_init` is (`LpLex.Safe.bind` is the step) - for every file. -/
open Qsx.LpLex in
theorem lplex_init_safe (file : List (List Char)) : ∃ s, init file = some s ∧ Inv s := init_post file

open Qsx.LpLex in
/-- every lexer function, from every state with the cursor inside the string -/
theorem lplex_safe (s : LpLex.St) (h : Inv s) :
    Safe (nextLine s) ∧ (∀ w, Safe (skipBlanks s w)) ∧ (∀ a, Safe (nextField s a)) ∧
    (∃ s', prevField s = some s' ∧ Inv s') ∧ Safe (nextVar s) ∧ (∀ k, Safe (keyword s k)) ∧
    Safe (colon s) ∧ Safe (hasColon s) ∧ Safe (nextConstraint s) ∧ Safe (sign s) ∧
    (∀ str, Safe (testNextIs s str)) ∧ Safe (value s) ∧ Safe (possibleBoundValue s) ∧
    (∀ a, Safe (testSense s a)) ∧ Safe (readSense s) ∧ Safe (checkSubjectTo s) ∧
    (∃ s', lpError s = some s' ∧ Inv s') :=
  ⟨safe_of_adv (nextLine_post s h), fun w => safe_of_adv (skipBlanks_post s w h),
   fun a => safe_of_adv (nextField_post s a h), prevField_post s h, safe_of_adv (nextVar_post s h),
   fun k => safe_of_inv (keyword_post s k h), safe_of_adv (colon_post s h), safe_of_inv (hasColon_post s h),
   safe_of_inv (nextConstraint_post s h), safe_of_adv (sign_post s h), fun str => safe_of_inv (testNextIs_post s str h),
   safe_of_adv (value_post s h), safe_of_inv (possibleBoundValue_post s h), fun a => safe_of_inv (testSense_post s a h),
   safe_of_inv (readSense_post s h), safe_of_inv (checkSubjectTo_post s h), lpError_post s h⟩

open Qsx.LpLex in
/-- the generic loop `while (P (*p, k)) p++` stays inside the string because P rejects the terminator (the next
theorem shows a loop whose P does not) -/
theorem lplex_scan_loop_safe (P : Char → Nat → Bool) (hP : ∀ k, P NUL k = false) (b : List Char) (i k : Nat) (h : i ≤ b.length) :
    ∃ j, scanWhile P b i k = some j ∧ i ≤ j ∧ j ≤ b.length := scanWhile_post P hP k h

open Qsx.LpLex in
/-- `has_colon` as it was before fix ef5c071 (`for (pp = p; *pp != '\n'; pp++)`): on the one-character line `x` without
a line break the loop walks over the terminator - the defect that `Safe (hasColon s)` in `lplex_safe` excludes for the
repaired code -/
theorem has_colon_before_fix_reads_behind_terminator :
    scanWhile (fun c _ => c != '\n' && c != ':') ['x'] 0 0 = none := by decide

open Qsx.LpLex in
/-- progress: a token read that reports success leaves strictly less input (rest of the line plus everything the line
reader has not delivered yet), so a parser loop that reads a token per round terminates on every file -/
theorem lplex_progress (s s' : LpLex.St) :
    (colon s = some (s', 0) → remaining s' < remaining s) ∧
    (∀ sg, sign s = some (s', 0, sg) → remaining s' < remaining s) ∧
    (nextVar s = some (s', 0) → remaining s' < remaining s) ∧
    (∀ v, value s = some (s', 0, v) → remaining s' < remaining s) :=
  ⟨fun h => ((colon_post s (inv_of_skipBlanks_bind h)).elim h).lt rfl,
   fun _ h => ((sign_post s (inv_of_skipBlanks_bind h)).elim h).lt rfl,
   fun h => ((nextVar_post s (inv_of_skipBlanks_bind h)).elim h).lt rfl,
   fun _ h => ((value_post s (inv_of_skipBlanks_bind h)).elim h).lt rfl⟩

open Qsx.LpLex in
/-- moving over blanks and on to following lines never yields more input than there was -/
theorem lplex_skip_monotone (s s' : LpLex.St) (w : Bool) (r : Int) (h : skipBlanks s w = some (s', r)) :
    remaining s' ≤ remaining s := ((skipBlanks_post s w (inv_of_skipBlanks h)).elim h).le

/-- a two-line text read as name - colon - sign - value -/
def lplexDemo : Option (List Char × Int × Int × Int × Int × Int × Bool × Nat) := do
  let s ← Qsx.LpLex.init [" c1: -3/4 x\n".toList, "end".toList]
  let (s, r1) ← Qsx.LpLex.nextVar s
  let (s, r2) ← Qsx.LpLex.colon s
  let (s, r3, sg) ← Qsx.LpLex.sign s
  let (s, r4, v) ← Qsx.LpLex.value s
  pure (s.field, r1, r2, r3, sg, r4, v.isSome, s.p)

/-- the hypotheses are satisfiable and the functions do something -/
example : (lplexDemo == some (['c', '1'], 0, 0, 0, -1, 0, true, 9)) = true := by decide +kernel


/-! ### the lexical layer of the MPS reader (read_mps.c), model `Qsx.MpsLex` -/

/-- `next_line` always answers, and whenever it reports a line the cursor points into that line's terminated string -/
theorem mpslex_next_line (s : MpsLex.St) : ∃ s' r, MpsLex.nextLine s = some (s', r) ∧ (r = 0 → MpsLex.Inv s') :=
  (MpsLex.nextLine_post s).exists₂ (P := fun s' r => r = 0 → MpsLex.Inv s')

open Qsx.MpsLex in
/-- every other lexer function, from every state whose cursor points into a terminated string: no null dereference, no read
behind the terminator, and the cursor stays inside the string -/
theorem mpslex_safe (s : MpsLex.St) (h : Inv s) :
    Safe (skipComment s) ∧ Safe (nextField s) ∧ (∀ pk, Safe (getDouble s pk)) ∧ Safe (nextCoef s) ∧ Safe (nextBound s) ∧
    Safe (nextFieldIsNumber s) ∧ Safe (checkEndOfLine s) :=
  ⟨safe_of_inv ((skipComment_post s h).mono fun _ hx => hx.1), safe_of_inv ((nextField_post s h).mono fun _ hx => hx.1),
   fun pk => safe_of_inv (getDouble_post s pk h), safe_of_inv (nextCoef_post s h), safe_of_inv (nextBound_post s h),
   safe_of_inv (nextFieldIsNumber_post s h), safe_of_inv (checkEndOfLine_post s h)⟩

open Qsx.MpsLex in
/-- `set_end_of_line` (`*p = '\n'`): strictly inside the string it keeps a terminated string; on the terminator itself it
leaves an unterminated one, and the only call mps.c makes afterwards (check_end_of_line) looks at the written character only -/
theorem mpslex_set_end_of_line (s : MpsLex.St) (h : Inv s) :
    (s.p < s.line.length → ∃ s', setEndOfLine s = some s' ∧ Inv s') ∧
    (s.p = s.line.length → ∃ s1, setEndOfLine s = some s1 ∧ s1.unterm = true ∧ ∃ s2, checkEndOfLine s1 = some (s2, false)) :=
  ⟨setEndOfLine_inside s h, setEndOfLine_at_terminator s h⟩

/-- progress in both readers' field loops: a field delivered by the LP reader's next_field leaves strictly less input, and a
field delivered by the MPS reader's next_field moves the cursor strictly forward on the same line - so the record loops
`for (more = 1; more; more = next_field == 0)` of the section parsers end after at most `strlen (line)` rounds -/
theorem lex_field_progress :
    (∀ (s s' : LpLex.St) (a : Bool), LpLex.nextField s a = some (s', 0) → LpLex.remaining s' < LpLex.remaining s) ∧
    (∀ (s s' : MpsLex.St), MpsLex.nextField s = some (s', 0) → s.p < s'.p ∧ s'.line = s.line) :=
  ⟨fun s _ a h => ((LpLex.nextField_post s a (LpLex.inv_of_skipBlanks_bind h)).elim h).lt rfl,
   fun s _ h => ((MpsLex.nextField_post s (MpsLex.inv_of_nextField h)).elim h).2 rfl⟩

/-- key, first field, a coefficient and a bound read from two MPS lines -/
def mpslexDemo : Option (List Char × List Char × Int × Bool × Int × Bool × Nat) := do
  let (s, _) ← MpsLex.nextLine { file := [" x  r1  -3/4\n".toList, " UP bnd y -inf".toList] }
  let (s, _) ← MpsLex.nextField s
  let f1 := s.field
  let (s, r1, v) ← MpsLex.nextCoef s
  let (s, _) ← MpsLex.nextLine s
  let (s, _) ← MpsLex.nextField s
  let (s, _) ← MpsLex.nextField s
  let (s, r2, b) ← MpsLex.nextBound s
  pure (f1, s.field, r1, v == some (-3/4 : Rat), r2, b == some LpLex.Bnd.ninf, s.fieldNum)

example : (mpslexDemo == some (['r', '1'], ['y'], 0, true, 0, true, 4)) = true := by decide +kernel

end Qsx.Props.C11
