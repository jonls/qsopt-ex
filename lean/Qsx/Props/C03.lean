/-
C03 — the reported status and value equal the mathematical truth.
What a theorem can carry: each of the three definitive answers has a certificate checker whose
acceptance implies the answer is true, the three classes exclude each other, the certified optimal
value is unique — so "the truth" is well defined by whichever certificate exists — the exact
driver runs at most 1 + QS_EXACT_MAX_ITER floating-point stages, and the two phase-II ratio tests,
which decide UNBOUNDED, are sound in exact arithmetic.
-/
import Qsx.Proofs.ApiSound
import Qsx.Proofs.DriverSound
import Qsx.Proofs.RatioSound

set_option backward.split false

namespace Qsx.Props.C03
open Qsx Qsx.Gen

theorem optimal_cert_sound {L : LP} {pinf ninf : Rat} {x pi : Array Rat} (hw : L.WF)
    (h : L.certOK pinf ninf x pi = true) : L.IsOptimal pinf ninf (rget x) := LP.certOK_sound hw h

theorem farkas_cert_sound {L : LP} {pinf ninf : Rat} {y : Array Rat} (hw : L.WF)
    (h : L.checkFarkas pinf ninf y = true) : ¬ ∃ x, L.Feasible pinf ninf x := LP.checkFarkas_sound hw h

theorem ray_cert_sound {L : LP} {pinf ninf : Rat} {x r : Array Rat}
    (h : L.checkRay pinf ninf x r = true) : L.Unbounded pinf ninf := LP.checkRay_sound h

/-- no LP carries certificates of two different classes -/
theorem classes_exclusive {L : LP} {pinf ninf : Rat} (hw : L.WF) :
    (∀ x pi y, L.certOK pinf ninf x pi = true → L.checkFarkas pinf ninf y = true → False) ∧
    (∀ x pi x0 r, L.certOK pinf ninf x pi = true → L.checkRay pinf ninf x0 r = true → False) ∧
    (∀ x0 r y, L.checkRay pinf ninf x0 r = true → L.checkFarkas pinf ninf y = true → False) :=
  ⟨fun _ _ _ h1 h2 => LP.optimal_farkas_exclusive hw h1 h2,
   fun _ _ _ _ h1 h2 => LP.optimal_ray_exclusive hw h1 h2,
   fun _ _ _ h1 h2 => LP.ray_farkas_exclusive hw h1 h2⟩

theorem value_unique {L : LP} {pinf ninf : Rat} {x₁ pi₁ x₂ pi₂ : Array Rat} (hw : L.WF)
    (h1 : L.certOK pinf ninf x₁ pi₁ = true) (h2 : L.certOK pinf ninf x₂ pi₂ = true) :
    L.objv (rget x₁) = L.objv (rget x₂) := LP.certified_value_unique hw h1 h2

/-- the exact driver consults at most `1 + QS_EXACT_MAX_ITER` floating-point stages, whatever
they answer -/
theorem ladder_bound (P : ILP) (pinf ninf : Rat) (dbl : Stage) (rungs : List Stage) :
    (solve P pinf ninf dbl rungs).stagesUsed ≤ 1 + exactMaxIter := solve_stage_bound P pinf ninf dbl rungs

/-! ### the primal phase-II ratio test (ratio.c:264-455, model `Qsx.Ratio`)

UNBOUNDED is the one definitive status the exact solver does not re-check; it is decided by this
test.  In exact arithmetic (the `mpq` instance: both tolerances 0) and from a basic solution inside
its bounds, the test's answers are sound statements about the step, for every number of rows. -/

open Qsx.Ratio in
/-- whatever the comparison of pass 2 answers (`leq`: the one place where the unrepaired code depended on
the arithmetic), the test never ends RATIO_FAILED: the row that defined `t_max` always qualifies
(fix f07d9ed) -/
theorem ratio_pII_never_failed (leq : Rat → Rat → Bool) (p : Ratio.Par) (hp : 0 ≤ p.pivtol) (rows : List Ratio.Row) :
    (pIIWith leq p rows).stat ≠ .failed := fun hf => by
  have h := pIIWith_spec leq p rows _ _ rfl _ rfl hf
  obtain ⟨j, _, _, _, hs, _⟩ := pass2_selects leq p hp rows rfl h.1
  rw [hs] at h
  exact absurd h.2 (not_lt.mpr (Int.natCast_nonneg j))

open Qsx.Ratio in
/-- RATIO_UNBOUNDED: every step length up to `inf` keeps every basic variable inside its bounds -/
theorem ratio_pII_unbounded_ray (p : Ratio.Par) (rows : List Ratio.Row) (hpv : p.pivtol = 0)
    (hfeas : ∀ r ∈ rows, inBounds p p.pftol r r.x) (h : (pII p rows).stat = .unbounded) :
    ∀ r ∈ rows, ∀ t, 0 ≤ t → t ≤ p.inf → inBounds p p.pftol r (newx p r t) := by
  have hub := pIIWith_spec _ p rows _ _ rfl _ rfl h
  exact fun r hr t ht0 ht => steps_ok p rows hpv hfeas t ht0 (le_trans ht hub) r hr

open Qsx.Ratio in
/-- RATIO_NOBCHANGE: the entering variable goes to its other bound and nothing leaves its bounds -/
theorem ratio_pII_flip_feasible (p : Ratio.Par) (rows : List Ratio.Row) (hpv : p.pivtol = 0)
    (hfeas : ∀ r ∈ rows, inBounds p p.pftol r r.x) (hd : 0 ≤ p.eu - p.el)
    (h : (pII p rows).stat = .nobchange) :
    (pII p rows).tz = (if p.incr then p.eu - p.el else -(p.eu - p.el)) ∧ (pII p rows).lindex = -1 ∧
    ∀ r ∈ rows, inBounds p p.pftol r (newx p r (p.eu - p.el)) := by
  have hs := pIIWith_spec _ p rows _ _ rfl _ rfl h
  rw [pII, hs.2]
  exact ⟨rfl, rfl, steps_ok p rows hpv hfeas _ hd hs.1⟩

open Qsx.Ratio in
/-- RATIO_BCHANGE at tolerance 0: a non-negative step, no bound shift, every basic variable stays
inside its bounds and the leaving one lands exactly on the bound `lvstat` names -/
theorem ratio_pII_step_feasible (p : Ratio.Par) (rows : List Ratio.Row) (hpv : p.pivtol = 0) (hpf : p.pftol = 0)
    (hfeas : ∀ r ∈ rows, inBounds p 0 r r.x) (h : (pII p rows).stat = .bchange) :
    ∃ t c, 0 ≤ t ∧ (pII p rows).tz = (if p.incr then t else -t) ∧ (pII p rows).boundch = false ∧
      0 ≤ (pII p rows).lindex ∧ rows[(pII p rows).lindex.toNat]? = some c ∧
      (pII p rows).pivot = c.y ∧ c.y ≠ 0 ∧
      (∀ r ∈ rows, inBounds p 0 r (newx p r t)) ∧
      (((pII p rows).lvstat = Ratio.statLower ∧ c.l ≠ -p.inf ∧ newx p c t = c.l) ∨
       ((pII p rows).lvstat = Ratio.statUpper ∧ c.u ≠ p.inf ∧ newx p c t = c.u)) := by
  rw [← hpf] at hfeas
  obtain ⟨j, t, c, ht0, htz, hb, hli, hj, hpiv, hy, hstep, hland, _⟩ :=
    pII_bchange_harris p rows hpv (le_of_eq hpf.symm) hfeas h (fun h0 => absurd hpf h0)
  rw [hpf] at hstep
  rw [hli]
  exact ⟨t, c, ht0, htz, hb, Int.natCast_nonneg j, hj, hpiv, hy, hstep, hland⟩

open Qsx.Ratio in
/-- among the rows that reach their bound no later than the chosen step the leaving row has the
largest pivot element -/
theorem ratio_pII_largest_pivot (p : Ratio.Par) (rows : List Ratio.Row) (hpv : p.pivtol = 0) (hpf : p.pftol = 0)
    (hfeas : ∀ r ∈ rows, inBounds p 0 r r.x) (h : (pII p rows).stat = .bchange) :
    ∀ (j : Nat) (r : Ratio.Row), rows[j]? = some r → r.y ≠ 0 → ratio2 p r ≤ absR (pII p rows).tz →
      absR r.y ≤ absR (pII p rows).pivot := by
  rw [← hpf] at hfeas
  obtain ⟨_, t, c, ht0, htz, _, _, _, hpiv, _, _, _, hmax⟩ :=
    pII_bchange_harris p rows hpv (le_of_eq hpf.symm) hfeas h (fun h0 => absurd hpf h0)
  -- the step length is `|tz|`
  have : absR (pII p rows).tz = t := by
    rw [htz, absR_eq_abs]
    split
    · exact abs_of_nonneg ht0
    · rw [abs_neg]
      exact abs_of_nonneg ht0
  rw [this, hpiv]
  exact hmax

/-- the hypotheses are satisfiable and RATIO_BCHANGE occurs (RATIO_UNBOUNDED in the next example): two
rows, increasing entering column; row 0 blocks at 3/2, row 1 at 2 -/
example :
    let p : Ratio.Par := { inf := 1000, pivtol := 0, pftol := 0, incr := true, ebounded := false, el := 0, eu := 0 }
    let rows : List Ratio.Row := [{ y := 2, x := 3, l := 0, u := 1000 }, { y := -1, x := 1, l := -1000, u := 3 }]
    (Ratio.pII p rows).stat = .bchange ∧ (Ratio.pII p rows).lindex = 0 ∧ (Ratio.pII p rows).tz = 3 / 2 := by
  decide +kernel

example :
    let p : Ratio.Par := { inf := 1000, pivtol := 0, pftol := 0, incr := true, ebounded := false, el := 0, eu := 0 }
    let rows : List Ratio.Row := [{ y := -2, x := 3, l := 0, u := 1000 }]
    (Ratio.pII p rows).stat = .unbounded := by
  decide +kernel

/-! ### the dual phase-II ratio test (ratio.c:642-796, `Qsx.Ratio.dII`): the same rule on dual slacks -/

open Qsx.Ratio in
theorem ratio_dII_never_failed (leq : Rat → Rat → Bool) (inf pivtol dftol : Rat) (hp : 0 ≤ pivtol)
    (lvUpper : Bool) (cols : List DCol) :
    (dIIWith leq inf pivtol dftol lvUpper cols).stat ≠ .failed := fun hf =>
  ratio_pII_never_failed leq (dPar inf pivtol dftol) hp _ ((dIICore_eq_pIIWith leq _ _ cols rfl rfl).1.symm.trans hf)

open Qsx.Ratio in
/-- RATIO_UNBOUNDED in the dual (the evidence for "primal infeasible"): every dual step up to `inf`
keeps every non-basic column dual feasible -/
theorem ratio_dII_unbounded_ray (inf dftol : Rat) (lvUpper : Bool) (cols : List DCol)
    (hfeas : ∀ c ∈ cols, inBounds (dPar inf 0 dftol) dftol (toRow inf lvUpper c) (toRow inf lvUpper c).x)
    (h : (dII inf 0 dftol lvUpper cols).stat = .unbounded) :
    ∀ c ∈ cols, ∀ t, 0 ≤ t → t ≤ inf →
      inBounds (dPar inf 0 dftol) dftol (toRow inf lvUpper c) (newx (dPar inf 0 dftol) (toRow inf lvUpper c) t) := by
  have hp : (pII (dPar inf 0 dftol) (cols.map (toRow inf lvUpper))).stat = .unbounded :=
    (dIICore_eq_pIIWith _ _ _ cols rfl rfl).1.symm.trans h
  exact fun c hc => ratio_pII_unbounded_ray _ _ rfl (List.forall_mem_map.mpr hfeas) hp _ (List.mem_map_of_mem hc)

open Qsx.Ratio in
/-- RATIO_BCHANGE in the dual at tolerance 0: dual feasibility is kept and the entering column's
reduced cost becomes 0 -/
theorem ratio_dII_step_feasible (inf : Rat) (lvUpper : Bool) (cols : List DCol)
    (hfeas : ∀ c ∈ cols, inBounds (dPar inf 0 0) 0 (toRow inf lvUpper c) (toRow inf lvUpper c).x)
    (h : (dII inf 0 0 lvUpper cols).stat = .bchange) :
    ∃ t c, 0 ≤ t ∧ (dII inf 0 0 lvUpper cols).tz = t ∧ (dII inf 0 0 lvUpper cols).coeffch = false ∧
      0 ≤ (dII inf 0 0 lvUpper cols).eindex ∧ cols[(dII inf 0 0 lvUpper cols).eindex.toNat]? = some c ∧
      (dII inf 0 0 lvUpper cols).pivot = c.zA ∧ c.skip = false ∧ c.zA ≠ 0 ∧
      (∀ c' ∈ cols, inBounds (dPar inf 0 0) 0 (toRow inf lvUpper c') (newSlack inf lvUpper c' t)) ∧
      newSlack inf lvUpper c t = 0 :=
  dII_bchange_harris inf 0 (le_refl 0) lvUpper cols hfeas h fun h0 => absurd rfl h0

/-- non-vacuity: two columns at lower with slacks 3 and 1, leaving variable at lower; column 1 blocks first -/
example :
    let cols : List Ratio.DCol := [{ zA := -2, dz := 3, cz := 0, vstat := 3, skip := false },
                                   { zA := -1, dz := 1, cz := 0, vstat := 3, skip := false }]
    (Ratio.dII 1000 0 0 false cols).stat = .bchange ∧ (Ratio.dII 1000 0 0 false cols).eindex = 1 ∧
    (Ratio.dII 1000 0 0 false cols).tz = 1 := by
  decide +kernel

end Qsx.Props.C03
