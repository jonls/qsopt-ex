/-
C19 — the esolver program reports exactly what the library computed.
The solution file lists, per section, the entries `name = value` of the non-zero components.
`decode_encode`: with distinct names that listing determines the full vector — so "precisely the
non-zero values by name" loses nothing, and the check can rebuild x, rc, pi, slack from the file and
hand them to the proved optimality checker of C01/C03.  `entries_exact` is the "precisely" part.
The file-type decision is the total function `ftypeOf`; the correspondence run compares it with
esolver's behaviour on file names of every shape.
-/
import Qsx.Proofs.SolFileRT

namespace Qsx.Props.C19
open Qsx Qsx.SolFile

theorem decode_encode (names : List String) (vals : List Rat) (hd : names.Nodup) (hl : names.length = vals.length) :
    decodeSec names (encodeSec names vals) = vals := SolFile.decode_encode names vals hd hl

theorem entries_exact (names : List String) (vals : List Rat) (e : String × Rat) :
    e ∈ encodeSec names vals ↔ (e ∈ names.zip vals ∧ e.2 ≠ 0) := by
  rw [encodeSec, List.mem_filter, bne_iff_ne]

/-- `-L` always selects the LP reader -/
theorem force_lp (parts : List String) : ftypeOf true parts = .lp := if_pos rfl

-- non-vacuity
#guard encodeSec ["x", "y", "z"] [1/2, 0, -3] == [("x", 1/2), ("z", -3)]
#guard decodeSec ["x", "y", "z"] [("x", 1/2), ("z", -3)] == [1/2, 0, -3]
#guard ftypeOf false ["a", "lp"] == .lp && ftypeOf false ["a", "lp", "gz"] == .lp && ftypeOf false ["a", "mps", "bz2"] == .mps
#guard ftypeOf false ["lp"] == .mps && ftypeOf false ["a", "LP", "BZ2"] == .lp && ftypeOf false ["lp", "gz"] == .mps

end Qsx.Props.C19
