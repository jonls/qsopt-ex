/-
C10 — files are read as the exact problem their text denotes: the numeric-literal layer.
-/
import Qsx.Proofs.NumScan
import Qsx.Proofs.LpLexSafe

namespace Qsx.Props.C10
open Qsx.Num

/-- Every literal `[±] digits [. digits] [e|E [±] digits]` with at least one mantissa digit and
arbitrarily many digits, followed by the end of the text or by a character that cannot continue a
number, is consumed exactly and becomes exactly the rational it spells (`0.1 ↦ 1/10`). -/
theorem scan_literal (l : Lit) (hw : l.WF) (rest : List Char) (ht : Term rest) :
    scan (l.render ++ rest) = (l.render.length, Val.ok l.value) :=
  Qsx.Num.scan_literal l hw rest ht

/-- an exponent below 100000 (any number of leading zeros) satisfies the guard hypothesis of
`Lit.WF`; mantissa digits are unrestricted -/
theorem exponent_below_100000_ok (ds : List Nat) (h : dval ds < 100000) : GuardOK 0 ds :=
  guardOK_of_lt 0 ds (by rwa [Nat.zero_mul, Nat.zero_add])

/-- since fix d278e6f: a literal with a well-formed mantissa whose exponent digits do not pass the guard
(more than five significant digits) is not read at all - zero characters, the variable untouched -
whatever follows; `l_exp` therefore never exceeds 99999 and cannot overflow the C `int` -/
theorem scan_exponent_guard (l : Lit) (hw : l.WF) (up : Bool) (sg : Sign) (e : List Nat)
    (hed : ∀ d ∈ e, d < 10) (hg : ¬ GuardOK 0 e) (rest : List Char) :
    scan (({ l with ex := some (up, sg, e) } : Lit).render ++ rest) = (0, Val.none) :=
  Qsx.Num.scan_exponent_guard l hw up sg e hed hg rest

/-- the scanner never reports more characters than it was given, and it always terminates
(structural recursion on the text) -/
theorem scan_consumes_le (cs : List Char) : (scan cs).1 ≤ cs.length :=
  Qsx.Num.scan_consumes_le cs

/-- a zero denominator is never divided by: the result is "nothing read" -/
theorem scan_no_div_zero (cs : List Char) (q : Rat) (n : Nat) (h : scan cs = (n, Val.ok q)) :
    ∀ v0, (scanLoop {} cs).first = some v0 →
      finishVal (scanLoop {} cs).num (scanLoop {} cs).den (scanLoop {} cs).lExp (scanLoop {} cs).expSgn (scanLoop {} cs).sgn ≠ 0 :=
  fun _ hv => result_ok_ne_zero _ h hv

-- non-vacuity (executable), with a quotient, a zero divisor, the exponent guard and leading zeros
#guard scanStr "0.1" == (3, Val.ok (1/10))
#guard scanStr "-12.50e-1x" == (9, Val.ok (-5/4))
#guard scanStr "3/4 " == (3, Val.ok (3/4))
#guard scanStr "1/0" == (0, Val.none)
#guard scanStr "7e100000" == (0, Val.none)
#guard scanStr "7e000012x" == (8, Val.ok 7000000000000)
#guard (scanStr "1e-99999").1 == 8
#guard (Lit.render { sg := .minus, ip := [1, 2], fp := some [5, 0], ex := some (false, .minus, [1]) }) == "-12.50e-1".toList

/-! ### token level: comments are immaterial to the row-name test of the LP reader (model `Qsx.LpLex`, read_lp.c) -/

/-- `has_colon` (which decides whether a constraint or the objective starts with a row name) answers 1 exactly when a `:`
occurs on the rest of the line before its end.  The line is what next_line left of the text: everything from the first
`\\` on - the comment - is cut off (`LpLex.nextLine`), so a `:` inside a comment does not count, and what lies behind the
string terminator is never looked at (before fix ef5c071 both were false). -/
theorem has_colon_spec (s : LpLex.St) (h : LpLex.Inv s) :
    ∃ s1 r1, LpLex.skipBlanks s false = some (s1, r1) ∧
      LpLex.hasColon s = some (s1, if LpLex.colonAhead (s1.line.drop s1.p) then 1 else 0) :=
  LpLex.hasColon_spec s h

/-- a constraint with a `:` only in its comment has no row name; one with a label has -/
example : (do let s ← LpLex.init ["x + y >= 1 \\ ratio: 3\n".toList]
              let (_, r) ← LpLex.hasColon s
              pure r) = some 0 := by decide +kernel
example : (do let s ← LpLex.init [" c1 : x + y >= 1 \\ ratio\n".toList]
              let (_, r) ← LpLex.hasColon s
              pure r) = some 1 := by decide +kernel

end Qsx.Props.C10
